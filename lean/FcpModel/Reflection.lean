import FcpModel.Schema
/-!
# Reflection: model of `FcpV2.reflection()` and of every `reflection()` method

Strings are lists of character codes (the wire format carries bytes).  Source positions
(`meta`) are whatever the parser recorded: they are inputs of the model.
-/
namespace Fcp.Refl

abbrev Str := List Nat

/-- type expressions with names as code lists -/
inductive RTy where
  | u (n : Nat) | i (n : Nat) | f32 | f64 | str
  | enum (name : Str) | struct (name : Str)
  | arr (t : RTy) (n : Nat) | dyn (t : RTy) | opt (t : RTy)
  deriving Repr, DecidableEq, Inhabited

structure RMeta where
  line : Int
  endLine : Int
  column : Int
  endColumn : Int
  startPos : Int
  endPos : Int
  filename : Str
  deriving Repr, DecidableEq, Inhabited

/-- extension values -/
inductive XV where
  | int (i : Int)
  | flt (repr : Str)     -- Python's repr of the float, as the harness passes it
  | str (s : Str)
  | arr (items : XV)     -- `cons`/`nil` chain
  | nil
  | cons (v : XV) (rest : XV)
  deriving Repr, DecidableEq, Inhabited

structure RField where
  name : Str
  id : Int
  ty : RTy
  unit : Option Str
  min : Option Nat      -- IEEE-754 word of the float
  max : Option Nat
  pos : Option RMeta
  deriving Repr, DecidableEq, Inhabited

structure RStruct where
  name : Str
  fields : List RField
  pos : Option RMeta
  deriving Repr, DecidableEq, Inhabited

structure REnumerator where
  name : Str
  value : Int
  pos : Option RMeta
  deriving Repr, DecidableEq, Inhabited

structure REnum where
  name : Str
  items : List REnumerator
  pos : Option RMeta
  deriving Repr, DecidableEq, Inhabited

structure RSignal where
  name : Str
  fields : List (Str × XV)
  pos : Option RMeta
  deriving Repr, DecidableEq, Inhabited

structure RImpl where
  name : Str
  protocol : Str
  type : Str
  fields : List (Str × XV)
  signals : List RSignal
  pos : Option RMeta
  deriving Repr, DecidableEq, Inhabited

structure RMethod where
  name : Str
  id : Int
  input : Str
  output : Str
  pos : Option RMeta
  deriving Repr, DecidableEq, Inhabited

structure RService where
  name : Str
  id : Int
  methods : List RMethod
  pos : Option RMeta
  deriving Repr, DecidableEq, Inhabited

structure RSchema where
  version : Int := 3000
  structs : List RStruct := []
  enums : List REnum := []
  impls : List RImpl := []
  services : List RService := []
  deriving Repr, DecidableEq, Inhabited

/-! ## building values -/

def mkList : List Val → Val
  | [] => .nil
  | v :: vs => .cons v (mkList vs)

def vStr (s : Str) : Val := .str s
def vOpt : Option Val → Val
  | none => .none
  | some v => .some v

/-- decimal digits of a natural number, as character codes -/
def digitsAux : Nat → Nat → List Nat → List Nat
  | 0, _, acc => acc
  | f+1, n, acc => if n < 10 then (48 + n) :: acc else digitsAux f (n / 10) ((48 + n % 10) :: acc)

def natCodes (n : Nat) : Str := digitsAux (n + 1) n []

def intCodes (i : Int) : Str :=
  if i < 0 then 45 :: natCodes i.natAbs else natCodes i.toNat

-- "Array", "DynamicArray", "Optional", "unsigned", "signed", "float", "double", "str", "Enum", "Struct", "f32", "f64"
def cArray : Str := [65, 114, 114, 97, 121]
def cDynamicArray : Str := [68, 121, 110, 97, 109, 105, 99, 65, 114, 114, 97, 121]
def cOptional : Str := [79, 112, 116, 105, 111, 110, 97, 108]
def cUnsigned : Str := [117, 110, 115, 105, 103, 110, 101, 100]
def cSigned : Str := [115, 105, 103, 110, 101, 100]
def cFloat : Str := [102, 108, 111, 97, 116]
def cDouble : Str := [100, 111, 117, 98, 108, 101]
def cStr : Str := [115, 116, 114]
def cEnum : Str := [69, 110, 117, 109]
def cStruct : Str := [83, 116, 114, 117, 99, 116]
def cF32 : Str := [102, 51, 50]
def cF64 : Str := [102, 54, 52]

/-- one `Type` record: (name, size, type) -/
def tyRec (name : Str) (size : Nat) (kind : Str) : Val :=
  mkList [vStr name, .int size, vStr kind]

/-- `Type.reflection()`: the flattened type chain -/
def chain : RTy → List Val
  | .u n => [tyRec (117 :: natCodes n) 1 cUnsigned]
  | .i n => [tyRec (105 :: natCodes n) 1 cSigned]
  | .f32 => [tyRec cF32 1 cFloat]
  | .f64 => [tyRec cF64 1 cDouble]
  | .str => [tyRec cStr 1 cStr]
  | .enum n => [tyRec n 1 cEnum]
  | .struct n => [tyRec n 1 cStruct]
  | .arr t n => tyRec cArray n cArray :: chain t
  | .dyn t => tyRec cDynamicArray 1 cDynamicArray :: chain t
  | .opt t => tyRec cOptional 1 cOptional :: chain t

def metaVal (m : RMeta) : Val :=
  mkList [.int m.line, .int m.endLine, .int m.column, .int m.endColumn, .int m.startPos, .int m.endPos,
          vStr m.filename]

def optMeta (m : Option RMeta) : Val := vOpt (m.map metaVal)

/-- Python `repr` of a `str`: single quotes unless the text has a `'` and no `"`; backslash,
the chosen quote, tab / line feed / carriage return and the other control characters escaped
(texts are byte lists: UTF-8; bytes of printable characters outside ASCII pass through `repr` unchanged, which is the domain the harness generates) -/
def hexDigit (n : Nat) : Nat := if n < 10 then 48 + n else 87 + n

def pyReprStr (s : Str) : Str :=
  let q : Nat := if s.contains 39 && !s.contains 34 then 34 else 39
  let esc (c : Nat) : Str :=
    if c = 92 then [92, 92]
    else if c = q then [92, q]
    else if c = 9 then [92, 116]
    else if c = 10 then [92, 110]
    else if c = 13 then [92, 114]
    else if c < 32 || c = 127 then [92, 120, hexDigit (c / 16), hexDigit (c % 16)]
    else [c]
  q :: (s.map esc).flatten ++ [q]

/-- Python `str(value)` of an extension value (strings inside lists are `repr`-ed) -/
def pyRepr : XV → Str
  | .int i => intCodes i
  | .flt r => r
  | .str s => pyReprStr s
  | .arr items => 91 :: pyItems items ++ [93]
  | .nil => []
  | .cons v r => pyRepr v
where
  pyItems : XV → Str
    | .cons v .nil => pyRepr v
    | .cons v r => pyRepr v ++ [44, 32] ++ pyItems r
    | _ => []

def pyStr : XV → Str
  | .str s => s
  | v => pyRepr v

def dictVal (kvs : List (Str × XV)) : Val :=
  mkList (kvs.map fun (k, v) => mkList [vStr k, vStr (pyStr v)])

def fieldVal (f : RField) : Val :=
  mkList [vStr f.name, .int f.id, mkList (chain f.ty), vOpt (f.unit.map vStr),
          vOpt (f.min.map fun w => .int w), vOpt (f.max.map fun w => .int w), optMeta f.pos]

def structVal (s : RStruct) : Val :=
  mkList [vStr s.name, mkList (s.fields.map fieldVal), optMeta s.pos]

def enumVal (e : REnum) : Val :=
  mkList [vStr e.name, mkList (e.items.map fun x => mkList [vStr x.name, .int x.value, optMeta x.pos]),
          optMeta e.pos]

def signalVal (s : RSignal) : Val := mkList [vStr s.name, dictVal s.fields, optMeta s.pos]

def implVal (i : RImpl) : Val :=
  mkList [vStr i.name, vStr i.protocol, vStr i.type, dictVal i.fields, mkList (i.signals.map signalVal),
          optMeta i.pos]

def methodVal (m : RMethod) : Val :=
  mkList [vStr m.name, .int m.id, vStr m.input, vStr m.output, optMeta m.pos]

def serviceVal (s : RService) : Val :=
  mkList [vStr s.name, .int s.id, mkList (s.methods.map methodVal), optMeta s.pos]

/-- `FcpV2.reflection()` as a value of the `Fcp` struct of reflection.fcp (fields in id order) -/
def reflect (S : RSchema) : Val :=
  mkList [mkList [.int 0x66, .int 0x63, .int 0x70], .int S.version,
          mkList (S.structs.map structVal), mkList (S.enums.map enumVal),
          mkList (S.impls.map implVal), mkList (S.services.map serviceVal)]

/-! ## the reflection schema (hand-written from reflection.fcp; re-checked against the
file by `Generated/ReflSchema.lean` on every run) -/

def fld (n : String) (id : Int) (t : Ty) (r : Ty) : Ty := .field n id t r

def tyMeta : Ty :=
  fld "line" 0 (.sint 32) <| fld "end_line" 1 (.sint 32) <| fld "column" 2 (.sint 32) <|
  fld "end_column" 3 (.sint 32) <| fld "start_pos" 4 (.sint 32) <| fld "end_pos" 5 (.sint 32) <|
  fld "filename" 6 .str .unit

def tyType : Ty := fld "name" 0 .str <| fld "size" 1 (.uint 32) <| fld "type" 2 .str .unit

def tyStructField : Ty :=
  fld "name" 0 .str <| fld "field_id" 1 (.uint 32) <| fld "type" 2 (.dyn tyType) <|
  fld "unit" 3 (.opt .str) <| fld "min_value" 4 (.opt .f64) <| fld "max_value" 5 (.opt .f64) <|
  fld "meta" 6 (.opt tyMeta) .unit

def tyStruct : Ty := fld "name" 0 .str <| fld "fields" 1 (.dyn tyStructField) <| fld "meta" 2 (.opt tyMeta) .unit

def tyEnumeration : Ty := fld "name" 0 .str <| fld "value" 1 (.sint 32) <| fld "meta" 2 (.opt tyMeta) .unit

def tyEnum : Ty := fld "name" 0 .str <| fld "enumeration" 1 (.dyn tyEnumeration) <| fld "meta" 2 (.opt tyMeta) .unit

def tyDictField : Ty := fld "name" 0 .str <| fld "value" 1 .str .unit

def tySignalBlock : Ty := fld "name" 0 .str <| fld "fields" 1 (.dyn tyDictField) <| fld "meta" 2 (.opt tyMeta) .unit

def tyImpl : Ty :=
  fld "name" 0 .str <| fld "protocol" 1 .str <| fld "type" 3 .str <| fld "fields" 4 (.dyn tyDictField) <|
  fld "signals" 5 (.dyn tySignalBlock) <| fld "meta" 6 (.opt tyMeta) .unit

def tyMethod : Ty :=
  fld "name" 0 .str <| fld "id" 1 (.uint 32) <| fld "input" 2 .str <| fld "output" 3 .str <|
  fld "meta" 4 (.opt tyMeta) .unit

def tyService : Ty :=
  fld "name" 0 .str <| fld "id" 1 (.uint 32) <| fld "methods" 2 (.dyn tyMethod) <| fld "meta" 3 (.opt tyMeta) .unit

/-- the closed type of struct `Fcp` in reflection.fcp -/
def reflTy : Ty :=
  fld "tag" 0 (.arr (.uint 8) 3) <| fld "version" 1 (.uint 16) <| fld "structs" 2 (.dyn tyStruct) <|
  fld "enums" 3 (.dyn tyEnum) <| fld "impls" 4 (.dyn tyImpl) <| fld "services" 5 (.dyn tyService) .unit

/-! ## the type chain is a faithful flattening -/

/-- rebuild a type from its chain (what the C++ run-time codec does after loading it) -/
def unchain : List Val → Option RTy
  | [] => none
  | .cons (.str name) (.cons (.int size) (.cons (.str kind) .nil)) :: rest =>
    if kind = cArray then (unchain rest).map (RTy.arr · size.toNat)
    else if kind = cDynamicArray then (unchain rest).map RTy.dyn
    else if kind = cOptional then (unchain rest).map RTy.opt
    else if kind = cEnum then (if rest.isEmpty then some (.enum name) else none)
    else if kind = cStruct then (if rest.isEmpty then some (.struct name) else none)
    else if kind = cFloat then (if rest.isEmpty then some .f32 else none)
    else if kind = cDouble then (if rest.isEmpty then some .f64 else none)
    else if kind = cStr then (if rest.isEmpty then some .str else none)
    else none  -- `unsigned` / `signed`: the width is spelled in the name, which is not parsed here (`leafNonNumeric`)
  | _ => none

/-- the scalar at the leaf of the type is not `u<n>` / `i<n>` (whose width is spelled in the name) -/
def leafNonNumeric : RTy → Bool
  | .u _ => false
  | .i _ => false
  | .arr t _ => leafNonNumeric t
  | .dyn t => leafNonNumeric t
  | .opt t => leafNonNumeric t
  | _ => true

/-- **the flattened chain is faithful**: the type (containers in nesting order, array sizes,
the scalar family and user type names) is recovered from its chain -/
theorem unchain_chain (t : RTy) (h : leafNonNumeric t = true) : unchain (chain t) = some t := by
  -- the kind texts are distinct constants: every `if kind = c…` of `unchain` evaluates
  induction t with
  | arr e n ih =>
    show (unchain (chain e)).map (RTy.arr · (n : Int).toNat) = _
    rw [ih h]; rfl
  | dyn e ih =>
    show (unchain (chain e)).map RTy.dyn = _
    rw [ih h]; rfl
  | opt e ih =>
    show (unchain (chain e)).map RTy.opt = _
    rw [ih h]; rfl
  | u n => cases h
  | i n => cases h
  | _ => rfl

end Fcp.Refl
