import FcpModel.PyCodec
import FcpModel.Bits
import FcpModel.Lists
/-!
# `_Buffer` refines bit lists

`Rep buffer B`: the byte list `buffer` holds exactly the bits `B` (LSB first), is as
long as needed and no longer, and every bit past `B` is zero.
-/
namespace Fcp

def bitAt (buffer : List Nat) (p : Nat) : Bool := (buffer.getD (p / 8) 0).testBit (p % 8)

structure Rep (buffer : List Nat) (B : Bits) : Prop where
  len : buffer.length = (B.length + 7) / 8
  ok : bytesOk buffer
  bits : ∀ p, bitAt buffer p = B.getD p false

theorem unpack_getElem? (bs : List Nat) (p : Nat) :
    (unpack bs)[p]? = if p / 8 < bs.length then some (bitAt bs p) else none := by
  induction bs generalizing p with
  | nil => rfl
  | cons b bs ih =>
    rw [unpack, List.getElem?_append, natBits_length]
    split
    · rename_i hp
      rw [natBits_getElem?, if_pos hp, bitAt, Nat.div_eq_of_lt hp, Nat.mod_eq_of_lt hp]
      rfl
    · rename_i hp
      obtain ⟨q, rfl⟩ := Nat.exists_eq_add_of_le (Nat.le_of_not_lt hp)
      rw [Nat.add_sub_cancel_left, ih, bitAt, bitAt, Nat.add_comm 8 q,
        Nat.add_div_right _ (by decide), Nat.add_mod_right, List.length_cons, List.getD_cons_succ]
      simp only [Nat.add_lt_add_iff_right]

theorem unpack_getD (bs : List Nat) (p : Nat) : (unpack bs).getD p false = bitAt bs p := by
  rw [List.getD_eq_getElem?_getD, unpack_getElem?]
  split
  · rfl
  · rename_i h
    simp [bitAt, List.getD_eq_getElem?_getD, List.getElem?_eq_none (Nat.le_of_not_lt h)]

theorem Rep.unpack_eq {buffer : List Nat} {B : Bits} (h : Rep buffer B) :
    unpack buffer = B ++ List.replicate (8 * buffer.length - B.length) false := by
  have := eq_append_replicate_of_getD false (unpack buffer) B
    (by rw [unpack_length, h.len]; omega) fun p => by rw [unpack_getD, h.bits]
  rwa [unpack_length] at this

/-- a buffer that represents `B` is `pack B` -/
theorem Rep.eq_pack {buffer : List Nat} {B : Bits} (h : Rep buffer B) : buffer = pack B := by
  refine eq_pack_of_unpack buffer B (8 * buffer.length - B.length) h.ok ?_ h.unpack_eq
  rw [h.len]
  exact unpack_pack_pad_lt B

theorem Rep.nil : Rep [] [] := by
  constructor
  · rfl
  · intro b hb; cases hb
  · intro p; simp [bitAt]

theorem testBit_shl_le_one (bit s j : Nat) (h : bit ≤ 1) :
    (bit <<< s).testBit j = (decide (j = s) && decide (bit = 1)) := by
  obtain rfl | rfl : bit = 0 ∨ bit = 1 := by omega
  · simp
  · simp [Nat.one_shiftLeft, Nat.testBit_two_pow, eq_comm]

theorem or_shl_lt_256 (old bit s : Nat) (ho : old < 256) (hb : bit ≤ 1) (hs : s < 8) :
    old ||| (bit <<< s) < 256 := by
  obtain rfl | rfl : bit = 0 ∨ bit = 1 := by omega
  · simpa
  · rw [Nat.one_shiftLeft]
    exact Nat.or_lt_two_pow (n := 8) ho (Nat.pow_lt_pow_right (by decide) hs)

theorem shiftRight_three (p : Nat) : p >>> 3 = p / 8 := Nat.shiftRight_eq_div_pow p 3

theorem and_seven (p : Nat) : p &&& 7 = p % 8 := Nat.and_two_pow_sub_one_eq_mod p 3

/-- the byte list after the optional growth by one zero byte -/
def grow (buffer : List Nat) (a : Nat) : List Nat :=
  if buffer.length ≤ a then buffer ++ [0] else buffer

theorem setBit_eq (buffer : List Nat) (bit p : Nat) :
    setBit buffer bit p =
      if p / 8 < (grow buffer (p / 8)).length then
        some ((grow buffer (p / 8)).set (p / 8)
          ((grow buffer (p / 8)).getD (p / 8) 0 ||| (bit <<< (p % 8))))
      else none := by
  unfold setBit grow
  simp only [shiftRight_three, and_seven]

theorem grow_getD (buffer : List Nat) (a j : Nat) : (grow buffer a).getD j 0 = buffer.getD j 0 := by
  unfold grow
  split
  · -- the new byte is the default
    simp only [List.getD_eq_getElem?_getD, List.getElem?_append, List.getElem?_singleton]
    split
    · rfl
    · rw [List.getElem?_eq_none (Nat.le_of_not_lt ‹_›)]; split <;> rfl
  · rfl

theorem grow_length {buffer : List Nat} {a : Nat} (h1 : a ≤ buffer.length) (h2 : buffer.length ≤ a + 1) :
    (grow buffer a).length = a + 1 := by
  unfold grow
  split
  · rw [List.length_append, Nat.le_antisymm ‹_› h1]; rfl
  · exact Nat.le_antisymm h2 (Nat.lt_of_not_le ‹_›)

theorem grow_mem (buffer : List Nat) (a x : Nat) (hx : x ∈ grow buffer a) : x ∈ buffer ∨ x = 0 := by
  unfold grow at hx
  split at hx
  · exact (List.mem_append.mp hx).imp_right List.mem_singleton.mp
  · exact Or.inl hx

theorem bitAt_set (l : List Nat) (a x q : Nat) (ha : a < l.length) :
    bitAt (l.set a x) q = if a = q / 8 then x.testBit (q % 8) else bitAt l q := by
  unfold bitAt
  rw [List.getD_eq_getElem?_getD, List.getElem?_set]
  split
  · rfl
  · rw [← List.getD_eq_getElem?_getD]

theorem bitAt_grow (buffer : List Nat) (a q : Nat) : bitAt (grow buffer a) q = bitAt buffer q := by
  unfold bitAt; rw [grow_getD]

/-- `set_bit` at the end of the represented bits appends one bit -/
theorem setBit_rep {buffer : List Nat} {B : Bits} (h : Rep buffer B) (bit : Nat) (hb : bit ≤ 1) :
    ∃ buffer', setBit buffer bit B.length = some buffer' ∧
      Rep buffer' (B ++ [decide (bit = 1)]) := by
  -- the buffer ends in the byte of bit `B.length` or just before it
  have hlen1 : (grow buffer (B.length / 8)).length = B.length / 8 + 1 := by
    refine grow_length ?_ ?_ <;> rw [h.len]
    · exact Nat.div_le_div_right (Nat.le_add_right _ 7)
    · rw [← Nat.add_div_right _ (by decide : 0 < 8)]
      exact Nat.div_le_div_right (Nat.le_succ _)
  have hidx : B.length / 8 < (grow buffer (B.length / 8)).length := hlen1 ▸ Nat.lt_succ_self _
  rw [setBit_eq, if_pos hidx]
  refine ⟨_, rfl, ?_, ?_, fun q => ?_⟩
  · rw [List.length_set, hlen1, List.length_append, List.length_singleton, Nat.add_assoc,
      Nat.add_div_right _ (by decide)]
  · intro x hx
    rcases List.mem_or_eq_of_mem_set hx with hx | rfl
    · rcases grow_mem _ _ _ hx with hx | rfl
      · exact h.ok x hx
      · decide
    · refine or_shl_lt_256 _ _ _ ?_ hb (Nat.mod_lt _ (by decide))
      rw [grow_getD, List.getD_eq_getElem?_getD]
      cases hg : buffer[B.length / 8]? with
      | none => decide
      | some y => exact h.ok y (List.mem_of_getElem? hg)
  · -- bit `q` of the new buffer is bit `q` of the old one, or the new bit when `q` is the end
    rw [bitAt_set _ _ _ _ hidx, getD_concat]
    by_cases hq : B.length / 8 = q / 8
    · rw [if_pos hq, Nat.testBit_or, testBit_shl_le_one _ _ _ hb, hq]
      show (bitAt (grow buffer (q / 8)) q || _) = _
      rw [bitAt_grow, h.bits]
      by_cases hqe : q = B.length
      · subst hqe; simp
      · have : q % 8 ≠ B.length % 8 := fun hm =>
          hqe (by rw [← Nat.div_add_mod q 8, ← hq, hm, Nat.div_add_mod])
        simp [hqe, this]
    · rw [if_neg hq, bitAt_grow, h.bits, if_neg (by rintro rfl; exact hq rfl)]

/-! ## `push_word` -/

theorem intBit_le_one (w : Int) (i : Nat) : intBit w i ≤ 1 := by
  unfold intBit
  have := Int.emod_two_eq (w >>> i)
  omega

/-- the bits `push_word` writes from iteration `i` on -/
def intBitsFrom (w : Int) : Nat → Nat → Bits
  | _, 0 => []
  | i, rem+1 => decide (intBit w i = 1) :: intBitsFrom w (i+1) rem

theorem intBit_succ (w : Int) (i : Nat) : intBit w (i+1) = intBit (w / 2) i := by
  rw [intBit, intBit, Nat.add_comm, Int.shiftRight_add, Int.shiftRight_eq_div_pow w 1]
  rfl

theorem intBitsFrom_succ (w : Int) (i rem : Nat) :
    intBitsFrom w (i+1) rem = intBitsFrom (w / 2) i rem := by
  induction rem generalizing i with
  | zero => rfl
  | succ rem ih => simp only [intBitsFrom, intBit_succ, ih]

theorem intBitsFrom_eq (n : Nat) (w : Int) : intBitsFrom w 0 n = natBits n (toTwos n w) := by
  induction n generalizing w with
  | zero => rfl
  | succ n ih =>
    simp only [intBitsFrom, natBits]
    rw [intBitsFrom_succ, ih, toTwos_succ_div, toTwos_succ_mod, Bool.beq_eq_decide_eq, intBit,
      Int.shiftRight_zero]

theorem pushLoop_rep (w : Int) (addr : Nat) (rem i : Nat) {buffer : List Nat} {B : Bits}
    (h : Rep buffer B) (hB : B.length = addr + i) :
    ∃ buffer', pushLoop w addr rem i buffer = some buffer' ∧
      Rep buffer' (B ++ intBitsFrom w i rem) := by
  induction rem generalizing i buffer B with
  | zero => exact ⟨buffer, rfl, (List.append_nil B).symm ▸ h⟩
  | succ rem ih =>
    obtain ⟨b1, hb1, hr1⟩ := setBit_rep h (intBit w i) (intBit_le_one w i)
    obtain ⟨b2, hb2, hr2⟩ := ih (i+1) hr1 (by rw [List.length_append, hB]; rfl)
    rw [pushLoop, ← hB, hb1]
    exact ⟨b2, hb2, by rwa [List.append_assoc] at hr2⟩

/-- invariant of a buffer being written: it represents `B` and the cursor is at the end -/
structure BufRep (b : Buf) (B : Bits) : Prop where
  rep : Rep b.buffer B
  addr : b.bitaddr = B.length

theorem pushWord_rep {b : Buf} {B : Bits} (h : BufRep b B) (w : Int) (n : Nat) :
    ∃ b', b.pushWord w n = .ok b' ∧ BufRep b' (B ++ natBits n (toTwos n w)) := by
  obtain ⟨buf', h1, h2⟩ := pushLoop_rep w b.bitaddr n 0 h.rep h.addr.symm
  rw [Buf.pushWord, h1]
  rw [intBitsFrom_eq] at h2
  exact ⟨_, rfl, h2, by rw [List.length_append, natBits_length, h.addr]⟩

/-! ## `read_word` -/

theorem shr_and_one (x j : Nat) : (x >>> j) &&& 1 = (x.testBit j).toNat := by
  rw [Nat.and_one_is_mod, Nat.shiftRight_eq_div_pow, Nat.toNat_testBit]

theorem getBit_eq (buffer : List Nat) (p : Nat) :
    getBit buffer p = ((unpack buffer)[p]?).map Bool.toNat := by
  unfold getBit
  simp only [shiftRight_three, and_seven, unpack_getElem?, shr_and_one]
  split <;> rfl

theorem readLoop_spec (buffer : List Nat) (addr : Nat) (rem i word : Nat) :
    readLoop buffer addr rem i word =
      (readN rem ((unpack buffer).drop (addr + i))).map fun (x, _) => word ||| (x <<< i) := by
  induction rem generalizing i word with
  | zero => simp [readLoop, readN, bitsNat]
  | succ rem ih =>
    rw [readLoop, getBit_eq]
    cases hget : (unpack buffer)[addr + i]? with
    | none =>
      rw [List.drop_of_length_le (List.getElem?_eq_none_iff.mp hget)]
      rfl
    | some b =>
      obtain ⟨hlt, hb⟩ := List.getElem?_eq_some_iff.mp hget
      rw [List.drop_eq_getElem_cons hlt, hb, readN_cons, Nat.add_assoc]
      show readLoop buffer addr rem (i + 1) _ = _
      rw [ih]
      cases readN rem ((unpack buffer).drop (addr + (i + 1))) with
      | none => rfl
      | some xr =>
        -- `b + 2 x` is `b ||| x <<< 1` since `b` is one bit
        have : b.toNat < 2 ^ 1 := b.toNat_lt
        simp only [Option.map_some, Nat.or_assoc, Nat.add_comm b.toNat, Nat.mul_comm 2,
          ← Nat.shiftLeft_eq _ 1, Nat.shiftLeft_add_eq_or_of_lt this, Nat.shiftLeft_or_distrib,
          ← Nat.shiftLeft_add, Nat.add_comm 1, Nat.or_comm (b.toNat <<< i)]

/-- the bits a reading buffer still has in front of its cursor -/
def Buf.bits (b : Buf) : Bits := (unpack b.buffer).drop b.bitaddr

theorem readWord_spec (b : Buf) (n : Nat) :
    b.readWord n = match readN n b.bits with
      | none => .error .overrun
      | some (x, _) => .ok (x, { b with bitaddr := b.bitaddr + n }) := by
  unfold Buf.readWord Buf.bits
  rw [readLoop_spec]
  simp only [Nat.add_zero, Nat.zero_or, Nat.shiftLeft_zero]
  cases readN n ((unpack b.buffer).drop b.bitaddr) with
  | none => rfl
  | some xr => rfl

end Fcp
