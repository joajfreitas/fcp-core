import FcpModel.SchemaLemmas
import FcpModel.Utf8
/-!
# Wire: the canonical FCP wire format (specification)

`enc`/`dec` over the closed type tree.  Every codec model (Python, C++ static,
C++ dynamic) is compared with this one.
-/
namespace Fcp

def wfList (wf : Val → Bool) : Nat → Val → Bool
  | 0, .nil => true
  | k+1, .cons v vs => wf v && wfList wf k vs
  | _, _ => false

/-- in range for the type (decidable) -/
def wf : Ty → Val → Bool
  | .uint n, .int i => 0 ≤ i && i < 2^n
  | .sint n, .int i => 0 < n && -(2^(n-1) : Int) ≤ i && i < 2^(n-1)
  | .f32, .int i => 0 ≤ i && i < 2^32
  | .f64, .int i => 0 ≤ i && i < 2^64
  | .enum b, .int i => 0 ≤ i && i < 2^b
  | .str, .str cs => cs.length < 2^32 && utf8Valid cs
  | .arr t n, v => wfList (wf t) n v
  | .dyn t, v => vlen v < 2^32 && wfList (wf t) (vlen v) v
  | .opt _, .none => true
  | .opt t, .some v => wf t v
  | .unit, .nil => true
  | .field _ _ t rest, .cons v vs => wf t v && wf rest vs
  | _, _ => false

def encList (enc : Val → Bits) : Val → Bits
  | .cons v vs => enc v ++ encList enc vs
  | _ => []

def encChars (cs : List Nat) : Bits := (cs.map (natBits 8)).flatten

/-- canonical encoding, as a list of bits -/
def enc : Ty → Val → Bits
  | .uint n, .int i => natBits n i.toNat
  | .sint n, .int i => natBits n (toTwos n i)
  | .f32, .int i => natBits 32 i.toNat
  | .f64, .int i => natBits 64 i.toNat
  | .enum b, .int i => natBits b i.toNat
  | .str, .str cs => natBits 32 cs.length ++ encChars cs
  | .arr t _, v => encList (enc t) v
  | .dyn t, v => natBits 32 (vlen v) ++ encList (enc t) v
  | .opt _, .none => natBits 8 0
  | .opt t, .some v => natBits 8 1 ++ enc t v
  | .field _ _ t rest, .cons v vs => enc t v ++ enc rest vs
  | _, _ => []

def decList (dec : Bits → Option (Val × Bits)) : Nat → Bits → Option (Val × Bits)
  | 0, bs => some (.nil, bs)
  | k+1, bs => match dec bs with
    | none => none
    | some (v, bs') => match decList dec k bs' with
      | none => none
      | some (vs, bs'') => some (.cons v vs, bs'')

def decChars : Nat → Bits → Option (List Nat × Bits)
  | 0, bs => some ([], bs)
  | k+1, bs => match readN 8 bs with
    | none => none
    | some (c, bs') => match decChars k bs' with
      | none => none
      | some (cs, bs'') => some (c :: cs, bs'')

/-- canonical decoding: value and remaining bits; `none` when a needed bit is absent
(or the bytes of a string are not well-formed UTF-8, which the Python decoder rejects) -/
def dec : Ty → Bits → Option (Val × Bits)
  | .uint n, bs => (readN n bs).map fun (w, r) => (.int w, r)
  | .sint n, bs => (readN n bs).map fun (w, r) => (.int (ofTwos n w), r)
  | .f32, bs => (readN 32 bs).map fun (w, r) => (.int w, r)
  | .f64, bs => (readN 64 bs).map fun (w, r) => (.int w, r)
  | .enum b, bs => (readN b bs).map fun (w, r) => (.int w, r)
  | .str, bs => match readN 32 bs with
    | none => none
    | some (n, r) => match decChars n r with
      | none => none
      | some (cs, r') => if utf8Valid cs then some (.str cs, r') else none
  | .arr t n, bs => decList (dec t) n bs
  | .dyn t, bs => match readN 32 bs with
    | none => none
    | some (n, r) => decList (dec t) n r
  | .opt t, bs => match readN 8 bs with
    | none => none
    | some (f, r) => if f = 0 then some (.none, r) else (dec t r).map fun (v, r') => (.some v, r')
  | .unit, bs => some (.nil, bs)
  | .field _ _ t rest, bs => match dec t bs with
    | none => none
    | some (v, r) => (dec rest r).map fun (vs, r') => (.cons v vs, r')

def encBytes (t : Ty) (v : Val) : List Nat := pack (enc t v)

/-- decode a byte string; the padding bits of the last byte are left over and ignored -/
def decBytes (t : Ty) (bytes : List Nat) : Option Val := (dec t (unpack bytes)).map (·.1)

/-! ## the scalar types as one: a word of `n` bits, signed or not -/

inductive Word : Ty → Nat → Bool → Prop
  | uint n : Word (.uint n) n false
  | sint n : Word (.sint n) n true
  | f32 : Word .f32 32 false
  | f64 : Word .f64 64 false
  | enum b : Word (.enum b) b false

def wordOf (s : Bool) (n : Nat) (i : Int) : Nat := bif s then toTwos n i else i.toNat
def ofWord (s : Bool) (n : Nat) (w : Nat) : Int := bif s then ofTwos n w else w
def wordOk (s : Bool) (n : Nat) (i : Int) : Bool :=
  bif s then 0 < n && -(2^(n-1) : Int) ≤ i && i < 2^(n-1) else 0 ≤ i && i < 2^n

theorem Word.enc_eq {t n s} (h : Word t n s) (i : Int) : enc t (.int i) = natBits n (wordOf s n i) := by
  cases h <;> rfl

theorem Word.dec_eq {t n s} (h : Word t n s) (bs : Bits) :
    dec t bs = (readN n bs).map fun (w, r) => (.int (ofWord s n w), r) := by
  cases h <;> rfl

theorem Word.wf_eq {t n s} (h : Word t n s) (v : Val) :
    wf t v = match v with | .int i => wordOk s n i | _ => false := by
  cases h <;> cases v <;> rfl

theorem Word.wf_inv {t n s} (h : Word t n s) {v : Val} (hv : wf t v = true) :
    ∃ i, v = .int i ∧ wordOk s n i = true := by
  rw [h.wf_eq] at hv
  cases v with
  | int i => exact ⟨i, rfl, hv⟩
  | _ => cases hv

/-- every scalar, signed or not, is written as the low `n` bits of its two's complement -/
theorem wordOf_eq_toTwos {s n i} (h : wordOk s n i = true) : wordOf s n i = toTwos n i := by
  cases s
  · simp only [wordOk, cond_false, Bool.and_eq_true, decide_eq_true_eq] at h
    exact (toTwos_of_inRange n i h.1 h.2).symm
  · rfl

theorem wordOf_lt {s n i} (h : wordOk s n i = true) : wordOf s n i < 2^n :=
  wordOf_eq_toTwos h ▸ toTwos_lt n i

theorem ofWord_wordOf {s n i} (h : wordOk s n i = true) : ofWord s n (wordOf s n i) = i := by
  cases s
  · simp only [wordOk, cond_false, Bool.and_eq_true, decide_eq_true_eq] at h
    exact Int.toNat_of_nonneg h.1
  · simp only [wordOk, cond_true, Bool.and_eq_true, decide_eq_true_eq] at h
    exact ofTwos_toTwos n h.1.1 i ⟨h.1.2, h.2⟩

/-- a natural number in an unsigned field: only the upper bound is left -/
theorem wf_natCast {t : Ty} {k : Nat} (h : Word t k false) (n : Nat) :
    wf t (.int n) = decide (n < 2 ^ k) := by
  rw [h.wf_eq]
  simp only [wordOk, cond_false, Int.natCast_nonneg, decide_true, Bool.true_and]
  exact decide_eq_decide.mpr (by rw [← natCast_two_pow]; exact Int.ofNat_lt)

/-- induction over `Ty` with the scalar types as one case -/
@[elab_as_elim] theorem Ty.wordInd {motive : Ty → Prop}
    (word : ∀ {t n s}, Word t n s → motive t) (str : motive .str)
    (arr : ∀ t n, motive t → motive (.arr t n)) (dyn : ∀ t, motive t → motive (.dyn t))
    (opt : ∀ t, motive t → motive (.opt t)) (unit : motive .unit)
    (field : ∀ nm id t r, motive t → motive r → motive (.field nm id t r)) : ∀ t, motive t
  | .uint n => word (.uint n)
  | .sint n => word (.sint n)
  | .f32 => word .f32
  | .f64 => word .f64
  | .enum b => word (.enum b)
  | .str => str
  | .arr t n => arr t n (wordInd word str arr dyn opt unit field t)
  | .dyn t => dyn t (wordInd word str arr dyn opt unit field t)
  | .opt t => opt t (wordInd word str arr dyn opt unit field t)
  | .unit => unit
  | .field nm id t r => field nm id t r (wordInd word str arr dyn opt unit field t)
      (wordInd word str arr dyn opt unit field r)

/-! ## what an in-range value looks like, type by type -/

theorem wf_cons (n : String) (id : Int) (t r : Ty) (v vs : Val) :
    wf (.field n id t r) (.cons v vs) = (wf t v && wf r vs) := by rw [wf]

theorem wf_nil : wf .unit .nil = true := by rw [wf]

theorem wf_unit_inv {v : Val} (h : wf .unit v = true) : v = .nil := by
  cases v <;> first | rfl | cases h

theorem wf_field_inv {n : String} {id : Int} {t r : Ty} {v : Val} (h : wf (.field n id t r) v = true) :
    ∃ x xs, v = .cons x xs ∧ wf t x = true ∧ wf r xs = true := by
  cases v with
  | cons x xs => simp only [wf, Bool.and_eq_true] at h; exact ⟨x, xs, rfl, h⟩
  | _ => cases h

theorem wf_str_inv {v : Val} (h : wf .str v = true) :
    ∃ cs, v = .str cs ∧ cs.length < 2 ^ 32 ∧ utf8Valid cs = true := by
  cases v with
  | str cs => simp only [wf, Bool.and_eq_true, decide_eq_true_eq] at h; exact ⟨cs, rfl, h⟩
  | _ => cases h

theorem wf_opt_inv {t : Ty} {v : Val} (h : wf (.opt t) v = true) :
    v = .none ∨ ∃ x, v = .some x ∧ wf t x = true := by
  cases v with
  | none => exact .inl rfl
  | some x => exact .inr ⟨x, rfl, h⟩
  | _ => cases h

/-! ## `wf` as an inductive relation: its rule induction -/

theorem wfList_induct {f : Val → Bool} {Q : Nat → Val → Prop} (nil : Q 0 .nil)
    (cons : ∀ k x xs, f x = true → Q k xs → Q (k+1) (.cons x xs)) :
    ∀ n v, wfList f n v = true → Q n v := by
  intro n
  induction n with
  | zero => intro v h; cases v with | nil => exact nil | _ => cases h
  | succ k ih =>
    intro v h
    cases v with
    | cons x xs =>
      simp only [wfList, Bool.and_eq_true] at h
      exact cons k x xs h.1 (ih xs h.2)
    | _ => cases h

theorem wfList_vlen (f : Val → Bool) (n : Nat) (v : Val) (h : wfList f n v = true) :
    vlen v = n :=
  wfList_induct (Q := fun n v => vlen v = n) rfl (fun _ _ _ _ ih => congrArg (· + 1) ih) n v h

/-- rule induction over `wf t v = true`: one case per way of being in range, the shape of the
value known in each.  A list is a value of `.arr t n`, so `nil`/`cons` are the array cases and the
dynamic array hands over to them. -/
theorem wf_induct {P : Ty → Val → Prop}
    (word : ∀ {t n s} i, Word t n s → wordOk s n i = true → P t (.int i))
    (str : ∀ cs, cs.length < 2 ^ 32 → utf8Valid cs = true → P .str (.str cs))
    (nil : ∀ t, P (.arr t 0) .nil)
    (cons : ∀ t n x xs, wf t x = true → wf (.arr t n) xs = true → P t x → P (.arr t n) xs →
      P (.arr t (n + 1)) (.cons x xs))
    (dyn : ∀ t v, vlen v < 2 ^ 32 → wf (.arr t (vlen v)) v = true → P (.arr t (vlen v)) v → P (.dyn t) v)
    (none : ∀ t, P (.opt t) .none)
    (some : ∀ t v, wf t v = true → P t v → P (.opt t) (.some v))
    (unit : P .unit .nil)
    (field : ∀ nm id t r v vs, wf t v = true → wf r vs = true → P t v → P r vs →
      P (.field nm id t r) (.cons v vs)) :
    ∀ t v, wf t v = true → P t v := by
  have list t (ih : ∀ v, wf t v = true → P t v) :
      ∀ n v, wfList (wf t) n v = true → wf (.arr t n) v = true ∧ P (.arr t n) v :=
    wfList_induct ⟨rfl, nil t⟩ fun k x xs hx hq =>
      ⟨by simp only [wf, wfList, hx, Bool.true_and]; exact hq.1, cons t k x xs hx hq.1 (ih x hx) hq.2⟩
  intro t
  induction t using Ty.wordInd with
  | word hw => intro v h; obtain ⟨i, rfl, hi⟩ := hw.wf_inv h; exact word i hw hi
  | str => intro v h; obtain ⟨cs, rfl, h1, h2⟩ := wf_str_inv h; exact str cs h1 h2
  | arr t n ih => intro v h; exact (list t ih n v h).2
  | dyn t ih =>
    intro v h
    simp only [wf, Bool.and_eq_true, decide_eq_true_eq] at h
    exact dyn t v h.1 h.2 (list t ih _ v h.2).2
  | opt t ih =>
    intro v h
    rcases wf_opt_inv h with rfl | ⟨x, rfl, hx⟩
    · exact none t
    · exact some t x hx (ih x hx)
  | unit => intro v h; rw [wf_unit_inv h]; exact unit
  | field nm id t r iht ihr =>
    intro v h
    obtain ⟨x, xs, rfl, hx, hxs⟩ := wf_field_inv h
    exact field nm id t r x xs hx hxs (iht x hx) (ihr xs hxs)

/-! ## the list decoders, one step unfolded, the tail's result mapped -/

theorem decList_succ (d : Bits → Option (Val × Bits)) (k : Nat) (bs : Bits) :
    decList d (k+1) bs = match d bs with
      | none => none
      | some (v, r) => (decList d k r).map fun p => (.cons v p.1, p.2) := by
  rw [decList]
  match d bs with
  | none => rfl
  | some (v, r) => dsimp only; cases decList d k r <;> rfl

theorem decChars_succ (k : Nat) (bs : Bits) :
    decChars (k+1) bs = match readN 8 bs with
      | none => none
      | some (c, r) => (decChars k r).map fun p => (c :: p.1, p.2) := by
  rw [decChars]
  match readN 8 bs with
  | none => rfl
  | some (c, r) => dsimp only; cases decChars k r <;> rfl

/-! ## round trip -/

theorem decChars_enc (cs : List Nat) (h : cs.all (· < 256) = true) (rest : Bits) :
    decChars cs.length (encChars cs ++ rest) = some (cs, rest) := by
  induction cs with
  | nil => rfl
  | cons c cs ih =>
    simp only [List.all_cons, Bool.and_eq_true, decide_eq_true_eq] at h
    simp only [encChars, List.map_cons, List.flatten_cons] at ih ⊢
    simp only [List.length_cons, List.append_assoc, decChars, readN_natBits 8 c _ h.1, ih h.2]

/-- **round trip**: decoding an encoding followed by anything returns the value and
exactly the suffix -/
theorem dec_enc (t : Ty) : ∀ (v : Val) (rest : Bits), wf t v = true →
    dec t (enc t v ++ rest) = some (v, rest) := by
  intro v rest h
  refine wf_induct (P := fun t v => ∀ rest, dec t (enc t v ++ rest) = some (v, rest))
    ?word ?str ?nil ?cons ?dyn ?none ?some ?unit ?field t v h rest
  case word =>
    intro t n s i hw hi rest
    simp only [hw.enc_eq, hw.dec_eq, readN_natBits _ _ _ (wordOf_lt hi), Option.map_some,
      ofWord_wordOf hi]
  case str =>
    intro cs h1 h2 rest
    simp only [enc, dec, List.append_assoc, readN_natBits 32 _ _ h1,
      decChars_enc cs (utf8Valid_bytes cs h2) rest, h2, if_true]
  case nil => intro t rest; rfl
  case cons =>
    intro t k v vs _ _ ih1 ih2 rest
    simp only [enc, dec] at ih2 ⊢
    simp only [encList, decList, List.append_assoc, ih1, ih2]
  case dyn =>
    intro t v h1 _ ih rest
    simp only [enc, dec, List.append_assoc, readN_natBits 32 _ _ h1] at ih ⊢
    exact ih rest
  case none =>
    intro t rest
    simp only [enc, dec, readN_natBits 8 0 rest (by omega), if_true]
  case some =>
    intro t v _ ih rest
    simp only [enc, dec, List.append_assoc, readN_natBits 8 1 _ (by omega), ih, Option.map_some]
    rfl
  case unit => intro rest; rfl
  case field =>
    intro nm id t r v vs _ _ ih1 ih2 rest
    simp only [enc, dec, List.append_assoc, ih1, ih2, Option.map_some]

/-- byte-level round trip: the zero padding of the last byte, and any bytes after it, are ignored -/
theorem decBytes_encBytes_append (t : Ty) (v : Val) (h : wf t v = true) (tail : List Nat) :
    decBytes t (encBytes t v ++ tail) = some v := by
  unfold decBytes encBytes
  rw [unpack_append, unpack_pack, List.append_assoc, dec_enc t v _ h]
  rfl

theorem decBytes_encBytes (t : Ty) (v : Val) (h : wf t v = true) :
    decBytes t (encBytes t v) = some v := by
  rw [← List.append_nil (encBytes t v)]; exact decBytes_encBytes_append t v h []

/-- the canonical encoding is injective on in-range values -/
theorem enc_injective (t : Ty) (v w : Val) (hv : wf t v = true) (hw : wf t w = true)
    (h : enc t v = enc t w) : v = w := by
  have h1 := dec_enc t v [] hv
  rw [h, dec_enc t w [] hw] at h1
  cases h1; rfl

end Fcp
