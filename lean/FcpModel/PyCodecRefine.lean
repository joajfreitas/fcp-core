import FcpModel.PyBufLemmas
import FcpModel.Wire
/-!
# The Python codec model refines the canonical wire format

Encoding: `Writes e X` — `e` appends the bits `X` to whatever a buffer represents; it is closed
under sequencing (`Writes.append`), so every case of `pyEnc` is read off its definition.
Decoding: `Reads d dc` — seen through `view` (the value and the bits in front of the cursor), `d`
is `dc`; a step is consumed with `Reads.elim`.
-/
namespace Fcp

/-! ## encode -/

/-- `e`, run on any buffer being written, succeeds and appends exactly the bits `X` -/
def Writes (e : Buf → Except PyErr Buf) (X : Bits) : Prop :=
  ∀ ⦃b B⦄, BufRep b B → ∃ b', e b = .ok b' ∧ BufRep b' (B ++ X)

theorem Writes.nil : Writes .ok [] := fun b _ h => ⟨b, rfl, by rwa [List.append_nil]⟩

theorem Writes.append {e₁ e₂ : Buf → Except PyErr Buf} {X Y : Bits} (h₁ : Writes e₁ X)
    (h₂ : Writes e₂ Y) : Writes (fun b => e₁ b >>= e₂) (X ++ Y) := fun b B h => by
  obtain ⟨b₁, e1, r1⟩ := h₁ h
  obtain ⟨b₂, e2, r2⟩ := h₂ r1
  exact ⟨b₂, by show e₁ b >>= e₂ = _; rw [e1]; exact e2, by rwa [← List.append_assoc]⟩

theorem writes_pushWord (w : Int) (n : Nat) :
    Writes (·.pushWord w n) (natBits n (toTwos n w)) := fun _ _ h => pushWord_rep h w n

theorem writes_pushNat {k n : Nat} (h : k < 2 ^ n) : Writes (·.pushWord k n) (natBits n k) := by
  have := writes_pushWord k n
  rwa [toTwos_of_inRange n k (Int.natCast_nonneg k) (by exact_mod_cast h), Int.toNat_natCast] at this

/-- every scalar: one `push_word` of the value at the width of the type -/
theorem writes_scalar {t : Ty} {n : Nat} {s : Bool} (ht : Word t n s) {v : Val} (hv : wf t v = true)
    {e : Val → Buf → Except PyErr Buf} (he : ∀ i, e (.int i) = (·.pushWord i n)) :
    Writes (e v) (enc t v) := by
  obtain ⟨i, rfl, hi⟩ := ht.wf_inv hv
  rw [he, ht.enc_eq, wordOf_eq_toTwos hi]
  exact writes_pushWord i n

theorem pyEncChars_writes : ∀ cs : List Nat, cs.all (· < 256) = true →
    Writes (pyEncChars cs) (encChars cs)
  | [], _ => Writes.nil
  | c :: cs, h => by
    simp only [List.all_cons, Bool.and_eq_true, decide_eq_true_eq] at h
    exact (writes_pushNat (n := 8) h.1).append (pyEncChars_writes cs h.2)

/-- on a list of exactly `n` elements the for-each loop (`pyEncList`) and the counted loop
(`pyEncArr`) both write the elements in order -/
theorem pyEncList_writes {e : Val → Buf → Except PyErr Buf} {p : Val → Bool} {g : Val → Bits}
    (he : ∀ v, p v = true → Writes (e v) (g v)) (n : Nat) (v : Val) (h : wfList p n v = true) :
    Writes (pyEncList e v) (encList g v) ∧ Writes (pyEncArr e n v) (encList g v) :=
  wfList_induct (Q := fun n v => Writes (pyEncList e v) (encList g v) ∧ Writes (pyEncArr e n v) (encList g v))
    ⟨Writes.nil, Writes.nil⟩ (fun _ x _ hx ih => ⟨(he x hx).append ih.1, (he x hx).append ih.2⟩) n v h

theorem pyEncFields_writes {e : STy → Val → Buf → Except PyErr Buf} {r : STy → Option Ty}
    (he : ∀ t ty v, r t = some ty → wf ty v = true → Writes (e t v) (enc ty v)) :
    ∀ fs ty v, resolveFieldsWith r fs = some ty → wf ty v = true →
      Writes (pyEncFields e fs v) (enc ty v)
  | [], _, v, hr, hv => by
    cases hr; cases wf_unit_inv hv; exact Writes.nil
  | fd :: rest, ty, v, hr, hv => by
    obtain ⟨t, rt, ht, hrt, rfl⟩ := resolveFieldsWith_cons hr
    obtain ⟨x, xs, rfl, hx, hxs⟩ := wf_field_inv hv
    exact (he _ _ _ ht hx).append (pyEncFields_writes he rest rt xs hrt hxs)

/-- **encode refinement**: on in-range values the Python encoder appends exactly the
canonical bits to the represented bit string -/
theorem pyEnc_refines (S : Schema) : ∀ (f : Nat) (t : STy) (ty : Ty) (v : Val),
    resolve S f t = some ty → wf ty v = true → Writes (pyEnc S f t v) (enc ty v) := by
  intro f
  induction f with
  | zero => intro t ty v hr; cases hr
  | succ f ih =>
    intro t ty v hr hv
    cases t with
    | u n => cases hr; exact writes_scalar (.uint n) hv fun _ => rfl
    | i n => cases hr; exact writes_scalar (.sint n) hv fun _ => rfl
    | f32 => cases hr; exact writes_scalar .f32 hv fun _ => rfl
    | f64 => cases hr; exact writes_scalar .f64 hv fun _ => rfl
    | enum name =>
      obtain ⟨bits, hbits, rfl⟩ := Option.map_eq_some_iff.mp hr
      exact writes_scalar (.enum bits) hv fun i => by simp only [pyEnc, hbits]
    | str =>
      cases hr
      obtain ⟨cs, rfl, hl, hu⟩ := wf_str_inv hv
      exact (writes_pushNat hl).append (pyEncChars_writes cs (utf8Valid_bytes cs hu))
    | struct name =>
      obtain ⟨st, hst, hfs⟩ := resolve_struct_inv hr
      simp only [pyEnc, hst]
      exact pyEncFields_writes ih _ ty v hfs hv
    | arr t n =>
      obtain ⟨ty', hty', rfl⟩ := Option.map_eq_some_iff.mp hr
      exact (pyEncList_writes (fun v => ih t ty' v hty') n v hv).2
    | dyn t =>
      obtain ⟨ty', hty', rfl⟩ := Option.map_eq_some_iff.mp hr
      simp only [wf, Bool.and_eq_true, decide_eq_true_eq] at hv
      exact (writes_pushNat hv.1).append (pyEncList_writes (fun v => ih t ty' v hty') _ v hv.2).1
    | opt t =>
      obtain ⟨ty', hty', rfl⟩ := Option.map_eq_some_iff.mp hr
      rcases wf_opt_inv hv with rfl | ⟨x, rfl, hx⟩
      · exact writes_pushNat (k := 0) (by decide)
      · exact (writes_pushNat (k := 1) (by decide)).append (ih t ty' x hty' hx)

/-- `encode(fcp, name, v)` returns the canonical bytes -/
theorem pyEncode_refines (S : Schema) (f : Nat) (name : String) (ty : Ty) (v : Val)
    (hr : resolve S f (.struct name) = some ty) (hv : wf ty v = true) :
    pyEncode S f name v = .ok (encBytes ty v) := by
  obtain ⟨b', h1, r1⟩ := pyEnc_refines S f (.struct name) ty v hr hv (b := {}) (B := []) ⟨Rep.nil, rfl⟩
  unfold pyEncode encBytes
  rw [h1]
  exact congrArg Except.ok r1.rep.eq_pack

/-! ## decode -/

theorem advance_advance (b : Buf) (n m : Nat) :
    ({ ({ b with bitaddr := b.bitaddr + n } : Buf) with
        bitaddr := ({ b with bitaddr := b.bitaddr + n } : Buf).bitaddr + m } : Buf) =
      { b with bitaddr := b.bitaddr + (n + m) } := by
  simp [Nat.add_assoc]

/-- what the canonical decoder sees of a Python decode result: the value and the bits left in
front of the cursor -/
def view {α : Type} : Except PyErr (α × Buf) → Option (α × Bits)
  | .ok (a, b) => some (a, b.bits)
  | .error _ => none

/-- `d` reads from a buffer what `dc` reads from the bits in front of its cursor, and fails
when `dc` fails -/
def Reads {α : Type} (d : Buf → Except PyErr (α × Buf)) (dc : Bits → Option (α × Bits)) : Prop :=
  ∀ b, view (d b) = dc b.bits

/-- a simulated step, eliminated: either both sides fail, or both return the same value and the
Python cursor stands in front of the canonical remainder -/
@[elab_as_elim] theorem Reads.elim {α : Type} {d : Buf → Except PyErr (α × Buf)}
    {dc : Bits → Option (α × Bits)} (h : Reads d dc) (b : Buf)
    {motive : Except PyErr (α × Buf) → Option (α × Bits) → Prop}
    (error : ∀ e, motive (.error e) none) (ok : ∀ a b', motive (.ok (a, b')) (some (a, b'.bits))) :
    motive (d b) (dc b.bits) := by
  rw [← h b]
  cases d b with
  | error e => exact error e
  | ok ab => exact ok ab.1 ab.2

theorem reads_readWord (n : Nat) : Reads (·.readWord n) (readN n) := by
  intro b
  show view (b.readWord n) = _
  rw [readWord_spec]
  cases h : readN n b.bits with
  | none => rfl
  | some xr =>
    obtain ⟨x, r⟩ := xr
    simp only [view, Buf.bits, ← List.drop_drop]
    rw [(readN_some_length h).2]; rfl

theorem pyDecChars_reads : ∀ k, Reads (pyDecChars k) (decChars k)
  | 0, _ => rfl
  | k + 1, b => by
    unfold pyDecChars decChars
    refine (reads_readWord 8).elim b (fun _ => rfl) fun c b' => ?_
    dsimp only [bind, Except.bind]
    exact (pyDecChars_reads k).elim b' (fun _ => rfl) fun _ _ => rfl

theorem pyDecList_reads {d : Buf → Except PyErr (Val × Buf)} {dc : Bits → Option (Val × Bits)}
    (hd : Reads d dc) : ∀ k, Reads (pyDecList d k) (decList dc k)
  | 0, _ => rfl
  | k + 1, b => by
    unfold pyDecList decList
    refine hd.elim b (fun _ => rfl) fun v b' => ?_
    dsimp only [bind, Except.bind]
    exact (pyDecList_reads hd k).elim b' (fun _ => rfl) fun _ _ => rfl

theorem pyDecFields_reads {d : STy → Buf → Except PyErr (Val × Buf)} {r : STy → Option Ty}
    (hd : ∀ t ty, r t = some ty → Reads (d t) (dec ty)) :
    ∀ fs ty, resolveFieldsWith r fs = some ty → Reads (pyDecFields d fs) (dec ty)
  | [], _, hr, _ => by cases hr; rfl
  | fd :: rest, ty, hr, b => by
    obtain ⟨t, rt, ht, hrt, rfl⟩ := resolveFieldsWith_cons hr
    unfold pyDecFields dec
    refine (hd _ _ ht).elim b (fun _ => rfl) fun v b' => ?_
    dsimp only [bind, Except.bind]
    exact (pyDecFields_reads hd rest rt hrt).elim b' (fun _ => rfl) fun _ _ => rfl

/-- every scalar: one `read_word` at the width of the type, then the conversion of its sign
(`pySigned` is `ofTwos`, word for word) -/
theorem reads_scalar {t : Ty} {n : Nat} {s : Bool} (ht : Word t n s)
    {d : Buf → Except PyErr (Val × Buf)}
    (hd : ∀ b, d b = do let (w, b') ← b.readWord n; .ok (.int (ofWord s n w), b')) :
    Reads d (dec t) := fun b => by
  rw [hd, ht.dec_eq]
  exact (reads_readWord n).elim b (fun _ => rfl) fun _ _ => rfl

/-- **decode refinement**: the Python decoder succeeds exactly when the canonical decoder
does, with the same value, consuming the same bits -/
theorem pyDec_refines (S : Schema) : ∀ (f : Nat) (t : STy) (ty : Ty),
    resolve S f t = some ty → Reads (pyDec S f t) (dec ty) := by
  intro f
  induction f with
  | zero => intro t ty hr; cases hr
  | succ f ih =>
    intro t ty hr
    cases t with
    | u n => cases hr; exact reads_scalar (.uint n) fun _ => rfl
    | i n => cases hr; exact reads_scalar (.sint n) fun _ => rfl
    | f32 => cases hr; exact reads_scalar .f32 fun _ => rfl
    | f64 => cases hr; exact reads_scalar .f64 fun _ => rfl
    | enum name =>
      obtain ⟨bits, hbits, rfl⟩ := Option.map_eq_some_iff.mp hr
      exact reads_scalar (.enum bits) fun b => by simp only [pyDec, hbits]; rfl
    | str =>
      cases hr
      intro b
      unfold pyDec dec
      refine (reads_readWord 32).elim b (fun _ => rfl) fun k b' => ?_
      dsimp only [bind, Except.bind]
      refine (pyDecChars_reads k).elim b' (fun _ => rfl) fun cs b'' => ?_
      dsimp only
      split <;> rfl
    | struct name =>
      obtain ⟨st, hst, hfs⟩ := resolve_struct_inv hr
      intro b
      simp only [pyDec, hst]
      exact pyDecFields_reads ih _ ty hfs b
    | arr t n =>
      obtain ⟨ty', hty', rfl⟩ := Option.map_eq_some_iff.mp hr
      exact pyDecList_reads (ih t ty' hty') n
    | dyn t =>
      obtain ⟨ty', hty', rfl⟩ := Option.map_eq_some_iff.mp hr
      intro b
      unfold pyDec dec
      refine (reads_readWord 32).elim b (fun _ => rfl) fun k b' => ?_
      exact pyDecList_reads (ih t ty' hty') k b'
    | opt t =>
      obtain ⟨ty', hty', rfl⟩ := Option.map_eq_some_iff.mp hr
      intro b
      unfold pyDec dec
      refine (reads_readWord 8).elim b (fun _ => rfl) fun flag b' => ?_
      dsimp only [bind, Except.bind]
      by_cases hf : flag = 0
      · subst hf; rfl
      · simp only [bne_iff_ne, ne_eq, hf, not_false_eq_true, ↓reduceIte]
        exact (ih t ty' hty').elim b' (fun _ => rfl) fun _ _ => rfl

/-- `decode(fcp, name, bytes)` succeeds exactly when the canonical decoder does, with the
same value -/
theorem pyDecode_refines (S : Schema) (f : Nat) (name : String) (ty : Ty) (bytes : List Nat)
    (hr : resolve S f (.struct name) = some ty) :
    match decBytes ty bytes with
    | some v => pyDecode S f name bytes = .ok v
    | none => ∃ e, pyDecode S f name bytes = .error e := by
  unfold decBytes pyDecode
  have hb : unpack bytes = (({} : Buf).pushBytes bytes).bits := by
    simp [Buf.bits, Buf.pushBytes]
  rw [hb]
  exact (pyDec_refines S f (.struct name) ty hr).elim _ (fun e => ⟨e, rfl⟩) fun _ _ => rfl

/-- the round trip at byte level: the Python decoder inverts the canonical encoder -/
theorem pyDecode_encBytes (S : Schema) (f : Nat) (name : String) (ty : Ty) (v : Val)
    (hr : resolve S f (.struct name) = some ty) (hv : wf ty v = true) :
    pyDecode S f name (encBytes ty v) = .ok v := by
  have h := pyDecode_refines S f name ty (encBytes ty v) hr
  rwa [decBytes_encBytes ty v hv] at h

end Fcp
