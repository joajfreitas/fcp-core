import FcpModel.Render
import FcpModel.FrontendLemmas
/-!
# Every error value of the reference loader cites existing lines of known files

`loadFile` returns error chains whose entries were created in different files: a syntax or
elaboration error inside a module cites the module, the `mod` statement that imported it cites
the importing file, and so on up to the root.  `loadFile_cites`: whatever the file system, the
root, the text and the import depth, every entry that carries a file and a line names a file
that is the root or is in the file system, and the line is between 1 and the number of lines of
*that* file.  The proof composes `parseText_lines` (syntax stage), `parseText_ok` (the lines kept
inside parsed nodes) and a walk through every elaboration action.
-/
namespace Fcp.Frontend
open Fcp.Syntax

/-- `p` with text `s` is the root file or a file of the file system -/
def Known (fs : FS) (rp : List String) (rs : String) (p : List String) (s : String) : Prop :=
  (p = rp ∧ s = rs) ∨ fs.read p = some s

/-- an entry's citation, if it has one, names a known file and an existing line of it -/
def CitesOk (fs : FS) (rp : List String) (rs : String) (m : EMsg) : Prop :=
  ∀ f l, m.file = some f → m.line = some l →
    ∃ p s, Known fs rp rs p s ∧ p.getLast?.getD "" = f ∧ InB (1 + nl s.toList) l

/-- an entry created while elaborating the file `fname`, whose lines are bounded by `N` -/
def LocalOk (N : Nat) (fname : String) (m : EMsg) : Prop :=
  ∀ f l, m.file = some f → m.line = some l → f = fname ∧ InB N l

theorem LocalOk.nocite {N : Nat} {fname kind text : String} : LocalOk N fname ⟨kind, text, none, none⟩ := by
  intro f l hf _; cases hf

theorem LocalOk.mk {N : Nat} {fname kind text : String} {l : Nat} (h : InB N l) :
    LocalOk N fname ⟨kind, text, some fname, some l⟩ := by
  intro f l' hf hl; cases hf; cases hl; exact ⟨rfl, h⟩

theorem LocalOk.cites {fs : FS} {rp : List String} {rs : String} {path : List String} {src : String}
    (hk : Known fs rp rs path src) {m : EMsg}
    (h : LocalOk (1 + nl src.toList) (path.getLast?.getD "") m) : CitesOk fs rp rs m := by
  intro f l hf hl
  obtain ⟨rfl, hb⟩ := h f l hf hl
  exact ⟨path, src, hk, rfl, hb⟩

/-- every entry of an error that `x` may return satisfies `P` -/
def ErrAll {α : Type} (P : EMsg → Prop) (x : Except Err α) : Prop := ∀ e, x = .error e → ∀ m ∈ e, P m

section
variable {α β : Type} {P : EMsg → Prop}

theorem ErrAll.ok {a : α} : ErrAll P (.ok a) := fun _ h => nomatch h

theorem ErrAll.error {e : Err} (h : ∀ m ∈ e, P m) : ErrAll P (.error e : Except Err α) :=
  fun _ he => by cases he; exact h

theorem ErrAll.one {m : EMsg} (h : P m) : ErrAll P (.error [m] : Except Err α) :=
  .error (List.forall_mem_singleton.mpr h)

/-- an error passed on with entries appended -/
theorem ErrAll.append {x : Except Err α} {e tags : Err} (hx : ErrAll P x) (he : x = .error e)
    (ht : ∀ m ∈ tags, P m) : ErrAll P (.error (e ++ tags) : Except Err β) :=
  .error fun m hm => (List.mem_append.mp hm).elim (hx e he m) (ht m)

theorem ErrAll.bind {x : Except Err α} {f : α → Except Err β} (hx : ErrAll P x) (hf : ∀ a, ErrAll P (f a)) :
    ErrAll P (x >>= f) := by
  cases x with
  | error e => exact .error (hx e rfl)
  | ok a => exact hf a

theorem ErrAll.map {x : Except Err α} {g : α → β} (hx : ErrAll P x) : ErrAll P (x.map g) := by
  cases x with
  | error e => exact .error (hx e rfl)
  | ok a => exact .ok

theorem ErrAll.mapM {f : α → Except Err β} {l : List α} (h : ∀ a ∈ l, ErrAll P (f a)) : ErrAll P (l.mapM f) :=
  fun e he => let ⟨a, ha, hfa⟩ := mapM_error f l e he; h a ha e hfa

theorem ErrAll.foldlM {f : β → α → Except Err β} (h : ∀ b a, ErrAll P (f b a)) :
    ∀ (l : List α) (b : β), ErrAll P (l.foldlM f b)
  | [], _ => .ok
  | a :: as, b => by rw [List.foldlM_cons]; exact (h b a).bind (ErrAll.foldlM h as)

end

theorem elabType_local {N : Nat} (t : Tree) (file : String) (ty : PTy) (h : TyOk N ty) :
    ErrAll (LocalOk N file) (elabType t file ty) := by
  induction ty with
  | named s line =>
    simp only [elabType]
    split
    · exact .ok
    · split
      · exact .ok
      · exact .one (.mk h)
  | arr e' size ih =>
    simp only [elabType]
    cases hx : elabType t file e' with
    | error err => exact (ih h).append hx (List.forall_mem_singleton.mpr .nocite)
    | ok v =>
      dsimp only
      split
      · exact .ok
      · exact .one .nocite
  | dyn e' ih =>
    simp only [elabType]
    cases hx : elabType t file e' with
    | error err => exact (ih h).append hx (List.forall_mem_singleton.mpr .nocite)
    | ok v => exact .ok
  | opt e' ih =>
    simp only [elabType]
    cases hx : elabType t file e' with
    | error err => exact (ih h).append hx (List.forall_mem_singleton.mpr .nocite)
    | ok v => exact .ok
  | _ => exact .ok

theorem elabParams_local {N : Nat} (file : String) (line : Nat) (hl : InB N line) (ps : List PParam) :
    ErrAll (LocalOk N file) (elabParams file line ps) := by
  refine ErrAll.foldlM (fun acc x => ?_) _ _
  obtain ⟨name, args⟩ := x
  dsimp only
  -- `by_cases`, not `split`, as in `elabParams_file`
  by_cases hu : name == "unit"
  · rw [if_pos hu]
    split
    · exact .ok
    · exact .ok
    · exact .one (.mk hl)
  · rw [if_neg hu]
    by_cases hr : name == "range"
    · rw [if_pos hr]
      split
      · split
        · exact .ok
        · exact .one (.mk hl)
      · exact .one (.mk hl)
    · rw [if_neg hr]; exact .one (.mk hl)

theorem elabField_local {N : Nat} (t : Tree) (file sname : String) (f : PField) (hf : FieldOk N f) :
    ErrAll (LocalOk N file) (elabField t file sname f) := by
  unfold elabField
  refine (elabParams_local file f.line hf.1 f.params).bind fun a => ?_
  obtain ⟨unit, mn, mx⟩ := a
  dsimp only
  cases pyInt? f.id with
  | none => exact .one (.mk hf.1)
  | some i =>
    dsimp only [pure, Except.pure, bind, Except.bind]
    cases hty : elabType t file f.ty with
    | error err =>
      exact (elabType_local t file f.ty hf.2).append hty
        (List.forall_mem_cons.mpr ⟨.nocite, List.forall_mem_singleton.mpr .nocite⟩)
    | ok ty => exact .ok

theorem elabEnumItem_local {N : Nat} (fname : String) (it : String × PVal × Nat) (h : InB N it.2.2) :
    ErrAll (LocalOk N fname) (elabEnumItem fname it) := by
  unfold elabEnumItem
  split
  · split
    · exact .ok
    · exact .one (.mk h)
  · exact .one (.mk h)

theorem elabMethod_local {N : Nat} (fname : String) (mt : PMethod) (h : InB N mt.line) :
    ErrAll (LocalOk N fname) (elabMethod fname mt) := by
  unfold elabMethod
  split
  · exact .ok
  · exact .one (.mk h)

/-- the error recorded so far, if any, cites well -/
def StOk (fs : FS) (rp : List String) (rs : String) (s : St) : Prop :=
  ∀ e, s.firstErr = some e → ∀ m ∈ e, CitesOk fs rp rs m

theorem StOk.fail {fs : FS} {rp : List String} {rs : String} {s : St} {e : Err}
    (hs : StOk fs rp rs s) (he : ∀ m ∈ e, CitesOk fs rp rs m) : StOk fs rp rs (s.fail e) := by
  intro e' h
  unfold St.fail at h
  cases hf : s.firstErr with
  | none => rw [hf] at h; simp [Option.orElse] at h; subst h; exact he
  | some e0 => rw [hf] at h; simp [Option.orElse] at h; subst h; exact hs e0 hf

theorem StOk.tree {fs : FS} {rp : List String} {rs : String} {s : St} (t : Tree)
    (hs : StOk fs rp rs s) : StOk fs rp rs { s with tree := t } := hs

/-- the errors of what a declaration contributes are its own, citing lines of the file it stands
in, or those of an imported module with the `mod` statement appended -/
theorem declDelta_cites {fs : FS} {rp : List String} {rs : String}
    (loader : List String → String → Except Err Tree)
    (hload : ∀ p s, fs.read p = some s → ErrAll (CitesOk fs rp rs) (loader p s))
    (path : List String) (src : String) (hk : Known fs rp rs path src)
    (t : Tree) (d : PDecl) (hd : DeclOk (1 + nl src.toList) d) :
    ErrAll (CitesOk fs rp rs) (declDelta loader fs path t d) := by
  have loc {α : Type} {x : Except Err α} (h : ErrAll (LocalOk (1 + nl src.toList) (path.getLast?.getD "")) x) :
      ErrAll (CitesOk fs rp rs) x := fun e he m hm => LocalOk.cites hk (h e he m hm)
  cases d with
  | struct name fields line => exact loc (ErrAll.mapM fun f hf => elabField_local _ _ _ f (hd f hf)).map
  | «enum» name items line =>
    simp only [declDelta]
    split
    · exact loc (.one (.mk hd.1))
    · exact loc (ErrAll.mapM fun it hit => elabEnumItem_local _ it (hd.2 it hit)).map
  | service name id methods line =>
    simp only [declDelta]
    split
    · exact loc (.one (.mk hd.1))
    · exact loc (ErrAll.mapM fun mt hmt => elabMethod_local _ mt (hd.2 mt hmt)).map
  | mod mpath line =>
    simp only [declDelta]
    split
    · exact .one fun f l hf _ => nomatch hf
    · rename_i src' hread
      split
      · rename_i e hle
        exact (hload _ src' hread).append hle (List.forall_mem_singleton.mpr (LocalOk.cites hk (.mk hd)))
      · exact .ok
  | _ => exact .ok

theorem elabFile_cites {fs : FS} {rp : List String} {rs : String}
    (loader : List String → String → Except Err Tree)
    (hload : ∀ p s, fs.read p = some s → ErrAll (CitesOk fs rp rs) (loader p s))
    (path : List String) (src : String) (hk : Known fs rp rs path src) (pf : PFile)
    (hpf : FileOk (1 + nl src.toList) pf) : ErrAll (CitesOk fs rp rs) (elabFile loader fs path pf) := by
  intro e he
  unfold elabFile at he
  have hfin := List.foldlRecOn (motive := StOk fs rp rs) pf.decls (fun s d => elabDecl loader fs path s d)
    (b := if pf.version == "3" then {} else ({} : St).fail
      [⟨"version", "Expected IDL version 3", some (path.getLast?.getD ""), some pf.versionLine⟩])
    (by
      split
      · exact fun _ h => nomatch h
      · exact StOk.fail (fun _ h => nomatch h) (List.forall_mem_singleton.mpr (LocalOk.cites hk (.mk hpf.1))))
    fun s hs d hd => by
      rw [elabDecl_eq]
      cases hδ : declDelta loader fs path s.tree d with
      | error e => exact hs.fail (declDelta_cites loader hload path src hk _ d (hpf.2 d hd) e hδ)
      | ok δ => exact hs
  simp only at he
  split at he
  · rename_i e0 hfe
    cases he
    intro m hm
    rcases List.mem_append.mp hm with hm | hm
    · exact hfin e0 hfe m hm
    · cases List.mem_singleton.mp hm
      exact fun f l hf _ => nomatch hf
  · cases he

/-- **every entry of every error chain of the reference loader cites an existing line of a known
file** — syntax errors, elaboration errors and the `mod` statements above them, to any import
depth -/
theorem loadFile_cites (fs : FS) (rp : List String) (rs : String) :
    ∀ (fuel : Nat) (path : List String) (src : String), Known fs rp rs path src →
      ∀ e, loadFile fs fuel path src = .error e → ∀ m ∈ e, CitesOk fs rp rs m
  | 0, path, src, _ => ErrAll.one fun f l _ hl => nomatch hl
  | fuel + 1, path, src, hk => by
    simp only [loadFile]
    cases hp : parseText src with
    | error se => exact ErrAll.one (LocalOk.cites hk (.mk (parseText_lines src se hp)))
    | ok pf =>
      exact elabFile_cites (loadFile fs fuel) (fun p s hr => loadFile_cites fs rp rs fuel p s (.inr hr))
        path src hk pf (parseText_ok src pf hp)

end Fcp.Frontend
