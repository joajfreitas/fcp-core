import FcpModel.Dbc
import FcpModel.ExceptLemmas
/-!
# DbcBuses: the per-bus partition of `write_dbc`

`groupByBus` models `buses[bus]["messages"].append(...)` on Python's insertion-ordered
`defaultdict`.  The lemmas say that the result is a partition: bus names are distinct, the
file of a bus holds exactly the messages whose binding names that bus, in binding order, and
every bus that some binding names has a file.
-/
namespace Fcp

theorem addToBus_eq {α : Type} (out : List (String × List α)) (bus : String) (m : α) :
    addToBus out bus m =
      if bus ∈ out.map (·.1) then out.map fun x => if x.1 = bus then (x.1, x.2 ++ [m]) else x
      else out ++ [(bus, [m])] := by
  have : out.any (·.1 == bus) = true ↔ bus ∈ out.map (·.1) := by
    simp only [List.any_eq_true, beq_iff_eq, List.mem_map]
  unfold addToBus
  simp only [this, beq_iff_eq]

/-- the messages of bus `b` among `done`, after one more pair -/
theorem busMsgs_snoc {α : Type} (done : List (String × α)) (bus : String) (m : α) (b : String) :
    ((done ++ [(bus, m)]).filter (·.1 == b)).map (·.2) =
      (done.filter (·.1 == b)).map (·.2) ++ if bus = b then [m] else [] := by
  rw [List.filter_append, List.map_append]
  congr 1
  by_cases h : bus = b <;> simp [h]

/-- what the dictionary must be after the pairs `done` have been appended -/
def BusInv {α : Type} (done : List (String × α)) (out : List (String × List α)) : Prop :=
  (out.map (·.1)).Nodup ∧
  (∀ b ms, (b, ms) ∈ out → ms = (done.filter (·.1 == b)).map (·.2) ∧ ms ≠ []) ∧
  (∀ p ∈ done, p.1 ∈ out.map (·.1))

theorem addToBus_inv {α : Type} (done : List (String × α)) (out : List (String × List α))
    (bus : String) (m : α) (h : BusInv done out) : BusInv (done ++ [(bus, m)]) (addToBus out bus m) := by
  obtain ⟨hnd, hms, hall⟩ := h
  rw [addToBus_eq]
  split
  · -- the bus has a file: it grows by `m`, every other file and the keys are untouched
    rename_i hmem
    have hkeys : (out.map fun x => if x.1 = bus then (x.1, x.2 ++ [m]) else x).map (·.1) = out.map (·.1) := by
      rw [List.map_map]; exact List.map_congr_left fun x _ => by dsimp only [Function.comp]; split <;> rfl
    refine ⟨hkeys ▸ hnd, fun b ms hb => ?_, fun p hp => hkeys ▸ ?_⟩
    · obtain ⟨⟨b0, ms0⟩, hin, heq⟩ := List.mem_map.mp hb
      obtain ⟨h1, h2⟩ := hms b0 ms0 hin
      rw [busMsgs_snoc]
      split at heq <;> cases heq
      · subst bus; exact ⟨by rw [if_pos rfl, h1], by simp⟩
      · rename_i hne; exact ⟨by rw [if_neg (Ne.symm hne), List.append_nil, h1], h2⟩
    · rcases List.mem_append.mp hp with hp | hp
      · exact hall p hp
      · cases List.mem_singleton.mp hp; exact hmem
  · -- a new bus: no earlier pair names it, so its file is `[m]`
    rename_i hnot
    refine ⟨?_, fun b ms hb => ?_, fun p hp => ?_⟩
    · rw [List.map_append, List.nodup_append]
      refine ⟨hnd, List.nodup_cons.mpr ⟨List.not_mem_nil, List.nodup_nil⟩, fun a ha b hb hc => ?_⟩
      obtain rfl : b = bus := List.mem_singleton.mp hb
      exact hnot (hc ▸ ha)
    · rw [busMsgs_snoc]
      rcases List.mem_append.mp hb with hb | hb
      · have hne : bus ≠ b := fun hc => hnot (hc ▸ List.mem_map_of_mem (f := (·.1)) hb)
        rw [if_neg hne, List.append_nil]; exact hms b ms hb
      · cases List.mem_singleton.mp hb
        have : done.filter (·.1 == bus) = [] :=
          List.filter_eq_nil_iff.mpr fun p hp hpb => hnot (beq_iff_eq.mp hpb ▸ hall p hp)
        rw [this, if_pos rfl]; exact ⟨rfl, List.cons_ne_nil _ _⟩
    · rw [List.map_append]
      rcases List.mem_append.mp hp with hp | hp
      · exact List.mem_append_left _ (hall p hp)
      · cases List.mem_singleton.mp hp; exact List.mem_append_right _ (List.mem_singleton.mpr rfl)

theorem foldl_addToBus_inv {α : Type} (pairs done : List (String × α)) (out : List (String × List α))
    (h : BusInv done out) :
    BusInv (done ++ pairs) (pairs.foldl (fun out p => addToBus out p.1 p.2) out) := by
  induction pairs generalizing done out with
  | nil => rwa [List.append_nil]
  | cons p ps ih =>
    have := ih (done ++ [p]) _ (addToBus_inv done out p.1 p.2 h)
    rwa [List.append_assoc] at this

/-- **the per-bus partition**: distinct bus names; the file of a bus holds exactly the messages
appended under that bus, in order, and is never empty; every bus named has a file -/
theorem groupByBus_partition {α : Type} (pairs : List (String × α)) :
    ((groupByBus pairs).map (·.1)).Nodup ∧
    (∀ b ms, (b, ms) ∈ groupByBus pairs → ms = (pairs.filter (·.1 == b)).map (·.2) ∧ ms ≠ []) ∧
    (∀ p ∈ pairs, ∃ ms, (p.1, ms) ∈ groupByBus pairs) := by
  obtain ⟨h1, h2, h3⟩ := foldl_addToBus_inv pairs [] [] ⟨List.nodup_nil, fun _ _ h => (List.not_mem_nil h).elim, fun _ h => (List.not_mem_nil h).elim⟩
  refine ⟨h1, h2, fun p hp => ?_⟩
  obtain ⟨⟨b, ms⟩, hin, rfl⟩ := List.mem_map.mp (h3 p hp)
  exact ⟨ms, hin⟩
end Fcp
