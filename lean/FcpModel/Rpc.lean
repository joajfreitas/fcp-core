import FcpModel.SchemaLemmas
import FcpModel.Verifier
/-!
# The rpc layer of the C++ generator (`plugins/fcp_cpp/fcp_cpp/rpc.py`: `generate_rpc`)

Before rendering, the C++ generator extends (a copy of) the schema: for every method of every
service an input and an output wrapper struct around the payload, each with a `default`
binding, an enum `ServiceId` of the services and one enum `<Service>MethodId` per service, both
padded to 8 bits with an enumerator `Size = 255`.  The model follows the code as repaired by
`d1ce970` (names are the declared names, as in the service templates) and `88563f4` (wrappers
kept per wrapper type): Python dict semantics for the two tables (first position, last value).

Proved: the user's declarations are untouched and come first (`rpc_prefix`), so every user type
resolves in the extended schema to what it resolved to before (`rpc_resolve`: the rpc layer
cannot change the wire format of a user struct); and on a schema that passes the plug-in's
service check (`CppOk`, FcpModel/Verifier.lean) with at least one method per service (the grammar's
rule) the generation does not raise (`rpc_total`).
-/
namespace Fcp.Rpc

/-- `d[k] = v` on an insertion-ordered dict -/
def dictSet {α : Type} (d : List (String × α)) (k : String) (v : α) : List (String × α) :=
  if d.any (·.1 == k) then d.map (fun p => if p.1 == k then (k, v) else p) else d ++ [(k, v)]

def wrapper (sv : Service) (payload suffix : String) : Struct :=
  { name := payload ++ suffix,
    fields := [{ name := "service_id", id := 0, ty := .enum "ServiceId" },
               { name := "method_id", id := 1, ty := .enum (sv.name ++ "MethodId") },
               { name := "payload", id := 2, ty := .struct payload }] }

/-- `method_data`: wrapper name ↦ wrapper struct, over all services and methods -/
def methodData (S : Schema) : List (String × Struct) :=
  S.services.foldl (fun d sv =>
    sv.methods.foldl (fun d m =>
      dictSet (dictSet d (m.input ++ "Input") (wrapper sv m.input "Input"))
        (m.output ++ "Output") (wrapper sv m.output "Output")) d) []

/-- `service_methods_enum`: service name ↦ (method name, id) list -/
def methodTable (S : Schema) : List (String × List Enumerator) :=
  S.services.foldl (fun d sv => dictSet d sv.name (sv.methods.map fun m => ⟨m.name, m.id⟩)) []

/-- Python `max` of a non-empty list (`none` where it raises on the empty list) -/
def maxValue : List Enumerator → Option Int
  | [] => none
  | x :: xs => some (xs.foldl (fun m y => if y.value > m then y.value else m) x.value)

/-- `_set_bitsize(enum, 8)`: `none` where it raises -/
def setBitsize (e : Enum) : Option Enum :=
  match maxValue e.enumeration with
  | none => none
  | some m =>
    if m > 255 then none
    else if m < 255 then some { e with enumeration := e.enumeration ++ [⟨"Size", 255⟩] }
    else some e

def allSome {α : Type} : List (Option α) → Option (List α)
  | [] => some []
  | none :: _ => none
  | some a :: r => (allSome r).map (a :: ·)

def rpcEnums (S : Schema) : Option (List Enum) :=
  if S.services.isEmpty then some []
  else
    match setBitsize ⟨"ServiceId", S.services.map fun sv => ⟨sv.name, sv.id⟩⟩,
          allSome ((methodTable S).map fun p => setBitsize ⟨p.1 ++ "MethodId", p.2⟩) with
    | some e, some es => some (e :: es)
    | _, _ => none

/-- every payload is a declared struct (`fcp.get_struct(...).unwrap()` raises otherwise) -/
def payloadsOk (S : Schema) : Bool :=
  S.services.all fun sv => sv.methods.all fun m => (S.getStruct m.input).isSome && (S.getStruct m.output).isSome

/-- `generate_rpc` (`none` where it raises) -/
def rpc (S : Schema) : Option Schema :=
  if !payloadsOk S then none else
  match rpcEnums S with
  | none => none
  | some es =>
    let ws := (methodData S).map (·.2)
    some { S with structs := S.structs ++ ws,
                  impls := S.impls ++ ws.map (fun w => ⟨w.name, "default", w.name, [], []⟩),
                  enums := S.enums ++ es }

theorem rpc_prefix (S S' : Schema) (h : rpc S = some S') :
    S.structs <+: S'.structs ∧ S.enums <+: S'.enums ∧ S.impls <+: S'.impls ∧
      S'.services = S.services ∧ S'.devices = S.devices := by
  rw [rpc] at h
  split at h
  · cases h
  · split at h
    · cases h
    · cases h
      exact ⟨List.prefix_append _ _, List.prefix_append _ _, List.prefix_append _ _, rfl, rfl⟩

/-- **the rpc layer cannot change the wire format of a user type** -/
theorem rpc_resolve (S S' : Schema) (h : rpc S = some S') (fuel : Nat) (t : STy) (ty : Ty)
    (hr : resolve S fuel t = some ty) : resolve S' fuel t = some ty :=
  have ⟨hs, he, _⟩ := rpc_prefix S S' h
  resolve_mono S S' (fun _ _ => hs.find?_eq_some) (fun _ _ => he.find?_eq_some) fuel t ty hr

theorem maxValue_le {l : List Enumerator} {m b : Int} (hm : maxValue l = some m)
    (h : ∀ x ∈ l, x.value ≤ b) : m ≤ b := by
  cases l with
  | nil => cases hm
  | cons x xs =>
    obtain ⟨hx, hxs⟩ := List.forall_mem_cons.mp h
    cases hm
    refine List.foldlRecOn xs _ (motive := (· ≤ b)) hx fun m hm y hy => ?_
    split
    · exact hxs y hy
    · exact hm

theorem setBitsize_isSome (e : Enum) (hne : e.enumeration ≠ []) (h : ∀ x ∈ e.enumeration, x.value ≤ 255) :
    (setBitsize e).isSome := by
  rw [setBitsize]
  split
  next hm =>
    cases hl : e.enumeration with
    | nil => exact absurd hl hne
    | cons x xs => rw [hl] at hm; cases hm
  next m hm =>
    rw [if_neg (Int.not_lt.mpr (maxValue_le hm h))]
    split <;> rfl

theorem dictSet_all {α : Type} {P : String × α → Prop} {d : List (String × α)} {k : String} {v : α}
    (hd : ∀ p ∈ d, P p) (hv : P (k, v)) : ∀ p ∈ dictSet d k v, P p := by
  intro p hp
  rw [dictSet] at hp
  split at hp
  · obtain ⟨q, hq, rfl⟩ := List.mem_map.mp hp
    split
    · exact hv
    · exact hd q hq
  · rcases List.mem_append.mp hp with h | h
    · exact hd p h
    · rw [List.mem_singleton.mp h]; exact hv

theorem methodTable_all (S : Schema) (P : List Enumerator → Prop)
    (h : ∀ sv ∈ S.services, P (sv.methods.map fun m => ⟨m.name, m.id⟩)) :
    ∀ p ∈ methodTable S, P p.2 :=
  List.foldlRecOn S.services _ (motive := fun d => ∀ p ∈ d, P p.2)
    (fun _ hp => absurd hp List.not_mem_nil) fun _ hd sv hsv => dictSet_all hd (h sv hsv)

theorem allSome_isSome {α : Type} (l : List (Option α)) (h : ∀ x ∈ l, x.isSome) : (allSome l).isSome := by
  induction l with
  | nil => rfl
  | cons x xs ih =>
    obtain ⟨hx, hxs⟩ := List.forall_mem_cons.mp h
    obtain ⟨a, rfl⟩ := Option.isSome_iff_exists.mp hx
    rw [allSome, Option.isSome_map]
    exact ih hxs

/-- **a schema that passes the C++ plug-in's service check generates**: with ids in 0..255
and at least one method per service (the grammar's rule) `generate_rpc` does not raise -/
theorem rpc_total (S : Schema) (c : CppOk S) (hm : ∀ sv ∈ S.services, sv.methods ≠ []) : (rpc S).isSome := by
  have he : (rpcEnums S).isSome := by
    rw [rpcEnums]
    split
    · rfl
    · rename_i hne
      have h1 : (setBitsize ⟨"ServiceId", S.services.map fun sv => ⟨sv.name, sv.id⟩⟩).isSome :=
        setBitsize_isSome _ (fun h => hne (by rw [List.map_eq_nil_iff.mp h]; rfl))
          (List.forall_mem_map.mpr fun sv hsv => (c.idRange sv hsv).2)
      have h2 : (allSome ((methodTable S).map fun p => setBitsize ⟨p.1 ++ "MethodId", p.2⟩)).isSome :=
        allSome_isSome _ <| List.forall_mem_map.mpr fun p hp =>
          have ⟨hne, hle⟩ := methodTable_all S (fun v => v ≠ [] ∧ ∀ y ∈ v, y.value ≤ 255)
            (fun sv hsv => ⟨fun h => hm sv hsv (List.map_eq_nil_iff.mp h),
              List.forall_mem_map.mpr fun m hmm => (c.methodIdRange sv hsv m hmm).2⟩) p hp
          setBitsize_isSome _ hne hle
      obtain ⟨e, ha⟩ := Option.isSome_iff_exists.mp h1
      obtain ⟨es, hb⟩ := Option.isSome_iff_exists.mp h2
      rw [ha, hb]; rfl
  have hp : payloadsOk S = true := by
    simp only [payloadsOk, List.all_eq_true, Bool.and_eq_true]
    exact c.payloads
  obtain ⟨es, hr⟩ := Option.isSome_iff_exists.mp he
  rw [rpc, hp, hr]; rfl

end Fcp.Rpc
