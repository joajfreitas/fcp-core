import FcpModel.Wire
/-!
# WorkBound: the decoder's work is bounded by the input length

`reads t bs` counts the `read_word` calls the decoder makes on input `bs` for type `t`
(one per scalar, length prefix, presence flag and character; a failing read is counted and
stops the decoder).  For every type in which no dynamic array has a zero-width element type
(`PosWidth`), `reads t bs ≤ weight t * (1 + bs.length)`, where `weight t` depends on the
schema only: a huge length prefix with no data behind it costs what the data present costs.
-/
namespace Fcp

/-- least number of bits a value of the type occupies -/
def minBits : Ty → Nat
  | .uint n => n
  | .sint n => n
  | .f32 => 32
  | .f64 => 64
  | .enum b => b
  | .str => 32
  | .arr t n => n * minBits t
  | .dyn _ => 32
  | .opt _ => 8
  | .unit => 0
  | .field _ _ t r => minBits t + minBits r

/-- no dynamic array has an element type of zero width -/
def PosWidth : Ty → Bool
  | .arr t _ => PosWidth t
  | .dyn t => PosWidth t && decide (1 ≤ minBits t)
  | .opt t => PosWidth t
  | .field _ _ t r => PosWidth t && PosWidth r
  | _ => true

/-- schema-only factor of the bound -/
def weight : Ty → Nat
  | .str => 2
  | .arr t n => n * weight t
  | .dyn t => 1 + 2 * weight t
  | .opt t => 1 + weight t
  | .unit => 0
  | .field _ _ t r => weight t + weight r
  | _ => 1

def readsList (rd : Bits → Nat) (dc : Bits → Option (Val × Bits)) : Nat → Bits → Nat
  | 0, _ => 0
  | k+1, bs => rd bs + match dc bs with
    | none => 0
    | some (_, r) => readsList rd dc k r

def readsChars : Nat → Bits → Nat
  | 0, _ => 0
  | k+1, bs => 1 + match readN 8 bs with
    | none => 0
    | some (_, r) => readsChars k r

/-- number of `read_word` calls of the decoder (same recursion as `dec`) -/
def reads : Ty → Bits → Nat
  | .uint _, _ => 1
  | .sint _, _ => 1
  | .f32, _ => 1
  | .f64, _ => 1
  | .enum _, _ => 1
  | .str, bs => 1 + match readN 32 bs with
    | none => 0
    | some (n, r) => readsChars n r
  | .arr t n, bs => readsList (reads t) (dec t) n bs
  | .dyn t, bs => 1 + match readN 32 bs with
    | none => 0
    | some (n, r) => readsList (reads t) (dec t) n r
  | .opt t, bs => 1 + match readN 8 bs with
    | none => 0
    | some (f, r) => if f = 0 then 0 else reads t r
  | .unit, _ => 0
  | .field _ _ t rest, bs => reads t bs + match dec t bs with
    | none => 0
    | some (_, r) => reads rest r

/-- the work bound of one type in elementary terms, success and failure apart: `Cost` below at
`s = f = b = weight t`, `m = minBits t` -/
def Bound (t : Ty) : Prop :=
  ∀ bs : Bits,
    (∀ v r, dec t bs = some (v, r) →
      r.length + minBits t ≤ bs.length ∧ reads t bs ≤ weight t * (1 + (bs.length - r.length))) ∧
    (dec t bs = none → reads t bs ≤ weight t * (1 + bs.length))

/-- `n` reads were made on input `bs` with outcome `o`: at most `s + b·(bits consumed)` if it
succeeded, consuming at least `m` bits; at most `f + b·(bits present)` if it failed -/
def Cost {α : Type} (bs : Bits) (o : Option (α × Bits)) (n s f b m : Nat) : Prop :=
  match o with
  | some (_, r) => ∃ c, bs.length = c + r.length ∧ m ≤ c ∧ n ≤ s + b * c
  | none => n ≤ f + b * bs.length

section
variable {α β : Type} {bs r1 : Bits} {a : α} {o : Option (α × Bits)} {o2 : Option (β × Bits)}
  {n n1 n2 s f b m s' f' b' m' s1 f1 m1 s2 f2 m2 w1 w2 : Nat}

theorem Cost.mono (h : Cost bs o n s f b m) (hs : s ≤ s') (hf : f ≤ f') (hb : b ≤ b')
    (hm : m' ≤ m) : Cost bs o n s' f' b' m' := by
  match o, h with
  | none, h =>
    have h : n ≤ _ := h
    have := Nat.mul_le_mul_right bs.length hb
    exact (show n ≤ _ by omega)
  | some (_, r), ⟨c, h1, h2, h3⟩ =>
    have := Nat.mul_le_mul_right c hb
    exact ⟨c, h1, by omega, by omega⟩

/-- a failure stays one, whatever the type of the value that was not produced -/
theorem Cost.fail (h : Cost bs (none : Option (α × Bits)) n s f b m) (hf : f ≤ f') (hb : b ≤ b') :
    Cost bs (none : Option (β × Bits)) n s' f' b' m' :=
  Cost.mono (show Cost bs none n s' f b m' from h) (Nat.le_refl _) hf hb (Nat.le_refl _)

theorem Cost.map (g : α → β) (h : Cost bs o n s f b m) :
    Cost bs (o.map fun p => (g p.1, p.2)) n s f b m := by
  match o, h with
  | none, h => exact h
  | some _, h => exact h

theorem Cost.pure (a : α) (bs : Bits) (s f b : Nat) : Cost bs (some (a, bs)) 0 s f b 0 :=
  ⟨0, (Nat.zero_add _).symm, Nat.le_refl _, Nat.zero_le _⟩

theorem Cost.read (k : Nat) (bs : Bits) (hs : 1 ≤ s + b * k) (hf : 1 ≤ f) :
    Cost bs (readN k bs) 1 s f b k := by
  match h : readN k bs with
  | none => exact (show 1 ≤ _ by omega)
  | some (_, r) => exact ⟨k, (readN_some_length h).1, Nat.le_refl _, hs⟩

theorem Cost.read1 (k : Nat) (bs : Bits) : Cost bs (readN k bs) 1 1 1 1 k :=
  Cost.read k bs (Nat.le_add_right ..) (Nat.le_refl _)

/-- sequencing, at a common rate `b`: a step that succeeded, then the rest on what it left -/
theorem Cost.seq (h1 : Cost bs (some (a, r1)) n1 s1 f1 b m1) (h2 : Cost r1 o2 n2 s2 f2 b m2) :
    Cost bs o2 (n1 + n2) (s1 + s2) (s1 + f2) b (m1 + m2) := by
  obtain ⟨c1, l1, hm1, hn1⟩ := h1
  match o2, h2 with
  | none, h2 =>
    have h2 : n2 ≤ _ := h2
    show _ ≤ _
    rw [l1, Nat.mul_add]; omega
  | some (_, r), ⟨c2, l2, hm2, hn2⟩ =>
    exact ⟨c1 + c2, by omega, by omega, by rw [Nat.mul_add]; omega⟩

/-- in the shape of `Bound` (`s = f = b`) sequencing adds the weights -/
theorem Cost.seqU (h1 : Cost bs (some (a, r1)) n1 w1 w1 w1 m1) (h2 : Cost r1 o2 n2 w2 w2 w2 m2) :
    Cost bs o2 (n1 + n2) (w1 + w2) (w1 + w2) (w1 + w2) (m1 + m2) :=
  (h1.mono (Nat.le_refl _) (Nat.le_refl _) (Nat.le_add_right ..) (Nat.le_refl _)).seq
    (h2.mono (Nat.le_refl _) (Nat.le_refl _) (Nat.le_add_left ..) (Nat.le_refl _))

/-- a step charged to the bits it consumed only (`s = 0`) changes nothing: this is what makes
a loop cost the same whatever the number of its iterations -/
theorem Cost.seq0 (h1 : Cost bs (some (a, r1)) n1 0 f1 b m1) (h2 : Cost r1 o2 n2 s f b m) :
    Cost bs o2 (n1 + n2) s f b m :=
  (h1.seq h2).mono (Nat.le_of_eq (Nat.zero_add s)) (Nat.le_of_eq (Nat.zero_add f)) (Nat.le_refl _)
    (Nat.le_add_left ..)

end

theorem Bound.scalar (t : Ty) (n : Nat) (hd : ∀ bs, ∃ f : Nat → Val, dec t bs = (readN n bs).map fun (w, r) => (f w, r))
    (hr : ∀ bs, reads t bs = 1) (hw : weight t = 1) (hm : minBits t = n) : Bound t := by
  intro bs
  obtain ⟨f, hf⟩ := hd bs
  rw [hr, hw, hm, hf]
  match h : readN n bs with
  | none => exact ⟨fun _ _ h => (nomatch h), fun _ => by omega⟩
  | some (w, r) =>
    have := (readN_some_length h).1
    exact ⟨fun _ _ h => by cases h; omega, fun h => (nomatch h)⟩

/-- a fixed number of elements, possibly of zero width: the count is a schema constant -/
theorem Cost.list {d : Bits → Option (Val × Bits)} {rd : Bits → Nat} {w m : Nat}
    (h : ∀ bs, Cost bs (d bs) (rd bs) w w w m) (k : Nat) (bs : Bits) :
    Cost bs (decList d k bs) (readsList rd d k bs) (k * w) (k * w) (k * w) (k * m) := by
  induction k generalizing bs with
  | zero => simp only [Nat.zero_mul]; exact Cost.pure ..
  | succ k ih =>
    simp only [decList_succ, readsList, Nat.succ_mul, Nat.add_comm _ w, Nat.add_comm _ m]
    exact match d bs, h bs with
    | none, h1 => h1.fail (Nat.le_add_right ..) (Nat.le_add_right ..)
    | some (x, r1), h1 => (h1.seqU (ih r1)).map _

/-- any number of elements that each take at least one bit: `w·(1 + c) ≤ 2·w·c` charges an
element to the `c ≥ 1` bits it consumed, so the count announced does not matter -/
theorem Cost.listPos {d : Bits → Option (Val × Bits)} {rd : Bits → Nat} {w m s f : Nat}
    (h : ∀ bs, Cost bs (d bs) (rd bs) w w w m) (hm : 1 ≤ m) (hf : w ≤ f) (k : Nat) (bs : Bits) :
    Cost bs (decList d k bs) (readsList rd d k bs) s f (2 * w) 0 := by
  induction k generalizing bs with
  | zero => exact Cost.pure ..
  | succ k ih =>
    simp only [decList_succ, readsList]
    exact match d bs, h bs with
    | none, h1 => h1.fail hf (by omega)
    | some (x, r1), ⟨c, h1, h2, h3⟩ =>
      have h1' : Cost bs (some (x, r1)) (rd bs) 0 w (2 * w) 0 :=
        ⟨c, h1, Nat.zero_le _, by
          have := Nat.mul_le_mul_left w (show 1 ≤ c by omega)
          rw [Nat.mul_assoc, Nat.two_mul]; omega⟩
      (h1'.seq0 (ih r1)).map _

/-- the characters of a string: each read is paid for by the 8 bits it consumed -/
theorem Cost.chars (k : Nat) (bs : Bits) (s : Nat) :
    Cost bs (decChars k bs) (readsChars k bs) s 1 1 0 := by
  induction k generalizing bs with
  | zero => exact Cost.pure ..
  | succ k ih =>
    simp only [decChars_succ, readsChars]
    exact match readN 8 bs, Cost.read 8 bs (s := 0) (f := 1) (b := 1) (by omega) (Nat.le_refl _) with
    | none, h1 => h1
    | some (c, r1), h1 => (h1.seq0 (ih r1)).map _

/-- the invariant holds for every type without zero-width elements under a dynamic array -/
theorem cost_all (t : Ty) : PosWidth t = true → ∀ bs,
    Cost bs (dec t bs) (reads t bs) (weight t) (weight t) (weight t) (minBits t) := by
  induction t using Ty.wordInd with
  | @word t n s h =>
    intro _ bs
    have e : reads t bs = 1 ∧ weight t = 1 ∧ minBits t = n := by cases h <;> exact ⟨rfl, rfl, rfl⟩
    simp only [h.dec_eq, e.1, e.2.1, e.2.2]
    exact (Cost.read1 n bs).map fun w => Val.int (ofWord s n w)
  | unit => intro _ bs; exact Cost.pure ..
  | str =>
    intro _ bs
    simp only [dec, reads, weight, minBits]
    exact match readN 32 bs, Cost.read1 32 bs with
    | none, h1 => h1.fail (by omega) (by omega)
    | some (n, r1), h1 => by
      have h2 := h1.seqU (Cost.chars n r1 1)
      dsimp only
      generalize decChars n r1 = o at h2
      match o, h2 with
      | none, h2 => exact h2
      | some (cs, r), ⟨c, h3, h4, h5⟩ =>
        dsimp only
        split
        · exact ⟨c, h3, h4, h5⟩
        · have := Nat.mul_le_mul_left 2 (show c ≤ bs.length by omega)
          exact (show _ ≤ _ by omega)
  | arr t n ih => intro hp bs; exact Cost.list (ih hp) n bs
  | dyn t ih =>
    intro hp bs
    simp only [PosWidth, Bool.and_eq_true, decide_eq_true_eq] at hp
    simp only [dec, reads, weight, minBits]
    exact match readN 32 bs, Cost.read1 32 bs with
    | none, h1 => h1.fail (Nat.le_add_right ..) (Nat.le_add_right ..)
    | some (n, r1), h1 => h1.seqU (Cost.listPos (ih hp.1) hp.2 (by omega) n r1)
  | opt t ih =>
    intro hp bs
    simp only [dec, reads, weight, minBits]
    exact match readN 8 bs, Cost.read1 8 bs with
    | none, h1 => h1.fail (Nat.le_add_right ..) (Nat.le_add_right ..)
    | some (f, r1), h1 => by
      dsimp only
      split
      · exact h1.seqU (Cost.pure Val.none r1 (weight t) (weight t) (weight t))
      · exact ((h1.seqU (ih hp r1)).mono (Nat.le_refl _) (Nat.le_refl _) (Nat.le_refl _)
          (Nat.le_add_right ..)).map _
  | field nm id t rest iht ihr =>
    intro hp bs
    simp only [PosWidth, Bool.and_eq_true] at hp
    simp only [dec, reads, weight, minBits]
    exact match dec t bs, iht hp.1 bs with
    | none, h1 => h1.fail (Nat.le_add_right ..) (Nat.le_add_right ..)
    | some (x, r1), h1 => (h1.seqU (ihr hp.2 r1)).map _

/-- **work bound**: the number of reads is at most `weight t * (1 + number of input bits)`,
whatever the length prefixes in the input announce -/
theorem reads_le (t : Ty) (hp : PosWidth t = true) (bs : Bits) :
    reads t bs ≤ weight t * (1 + bs.length) := by
  rw [Nat.mul_add, Nat.mul_one]
  match dec t bs, cost_all t hp bs with
  | none, h => exact h
  | some _, ⟨c, h1, _, h2⟩ =>
    have := Nat.mul_le_mul_left (weight t) (show c ≤ bs.length by omega)
    omega

end Fcp
