import FcpModel.Lists
/-!
# Codegen: `GeneratorManager.generate` as an effect on a file system, and the process-level
model of determinism

`FS` is an association list path ↦ contents (later bindings shadowed by earlier ones are
irrelevant: `FS.get` returns the first).
-/
namespace Fcp.Codegen

abbrev FS := List (String × String)

def FS.get (fs : FS) (p : String) : Option String := fs.lookup p

def FS.write (fs : FS) (p c : String) : FS := (p, c) :: fs.filter (·.1 != p)

def FS.delete (fs : FS) (ps : List String) : FS := fs.filter (fun e => !ps.contains e.1)

/-- `for result in self.generate(fcp, ctx): handle_result(result)` for file results -/
def writeAll (files : List (String × String)) (fs : FS) : FS :=
  files.foldl (fun fs pc => fs.write pc.1 pc.2) fs

/-- what a plug-in's `generate()` does: it may delete files of the output directory before
returning (the C plug-in clears `*.c`/`*.h`), and returns the files to write -/
structure Plugin where
  deletes : FS → List String
  files : List (String × String)

/-- `GeneratorManager.generate`: register checks, verify, and only then run the plug-in and
write its results -/
def generateCmd {E : Type} (verdict : Except E Unit) (plugin : Plugin) (fs : FS) : FS × Except E Unit :=
  match verdict with
  | .error e => (fs, .error e)
  | .ok () => (writeAll plugin.files (fs.delete (plugin.deletes fs)), .ok ())

/-- the C plug-in's clearing rule: files directly in the output directory ending in .c / .h -/
def clearsCH (fs : FS) : List String :=
  (fs.map (·.1)).filter fun p => !p.contains '/' && (p.endsWith ".c" || p.endsWith ".h")

/-- **reject ⇒ no effect**: a rejected schema leaves the directory untouched and the command
reports the verifier's error -/
theorem gate_reject {E : Type} (e : E) (plugin : Plugin) (fs : FS) :
    generateCmd (.error e) plugin fs = (fs, .error e) := rfl

theorem get_write_same (fs : FS) (p c : String) : (fs.write p c).get p = some c :=
  List.lookup_cons_self

theorem get_write_other (fs : FS) (p q c : String) (h : q ≠ p) :
    (fs.write p c).get q = fs.get q := by
  rw [FS.write, FS.get, List.lookup_cons, beq_false_of_ne h]
  exact lookup_filter_ne fs h

theorem writeAll_cons (x : String × String) (xs : List (String × String)) (fs : FS) :
    writeAll (x :: xs) fs = writeAll xs (fs.write x.1 x.2) := rfl

theorem get_writeAll_not_mem (files : List (String × String)) (fs : FS) (q : String)
    (h : q ∉ files.map (·.1)) : (writeAll files fs).get q = fs.get q :=
  List.foldlRecOn files _ (motive := fun fs' => fs'.get q = fs.get q) rfl fun fs' hfs x hx =>
    (get_write_other fs' x.1 q x.2 fun e => h (e ▸ List.mem_map_of_mem hx)).trans hfs

theorem get_writeAll_mem (files : List (String × String)) (fs : FS) (p c : String)
    (hn : (files.map (·.1)).Nodup) (h : (p, c) ∈ files) : (writeAll files fs).get p = some c := by
  induction files generalizing fs with
  | nil => cases h
  | cons x xs ih =>
    rw [List.map_cons, List.nodup_cons] at hn
    rw [writeAll_cons]
    rcases List.mem_cons.mp h with rfl | hm
    · rw [get_writeAll_not_mem xs _ p hn.1, get_write_same]
    · exact ih _ hn.2 hm

/-- **accept ⇒ exactly the returned files**: after an accepted generation every returned
path holds exactly the returned contents, and every other path is as the plug-in left it -/
theorem gate_accept {E : Type} (plugin : Plugin) (fs : FS) (hn : (plugin.files.map (·.1)).Nodup) :
    let r := generateCmd (E := E) (.ok ()) plugin fs
    (r.2 = .ok ()) ∧
    (∀ p c, (p, c) ∈ plugin.files → r.1.get p = some c) ∧
    (∀ q, q ∉ plugin.files.map (·.1) → r.1.get q = (fs.delete (plugin.deletes fs)).get q) := by
  refine ⟨rfl, ?_, ?_⟩
  · intro p c h; exact get_writeAll_mem _ _ p c hn h
  · intro q h; exact get_writeAll_not_mem _ _ q h

/-- the `{path: contents}` map of a returned file list -/
def toMap (files : List (String × String)) (p : String) : Option String := files.lookup p

/-- **order independence**: if a generator emits the same files in another order (e.g. because
it iterated a `set` of protocol names under another hash seed), the resulting map is the same -/
theorem gen_order_indep (files files' : List (String × String)) (h : files.Perm files')
    (hn : (files.map (·.1)).Nodup) : toMap files = toMap files' :=
  funext (lookup_perm h hn)

end Fcp.Codegen
