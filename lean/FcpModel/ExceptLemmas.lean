import FcpModel.Lists
/-!
# `Except`: what `map`, `mapM` and `foldlM` return, from what their steps return

Two readings of a result recur: its `.ok` side alone (`toOption`: two results that agree up to
the error value) and inversion (which step a result comes from).
-/
namespace Fcp

theorem Except.map_eq_ok {ε α β : Type} {g : α → β} {x : Except ε α} {b : β} (h : x.map g = .ok b) :
    ∃ a, x = .ok a ∧ g a = b := by
  cases x with
  | error e => cases h
  | ok a => cases h; exact ⟨a, rfl, rfl⟩

theorem toOption_map {ε α β : Type} (g : α → β) (x : Except ε α) : (x.map g).toOption = x.toOption.map g := by
  cases x <;> rfl

theorem toOption_eq_cases {ε α : Type} {a b : Except ε α} (h : a.toOption = b.toOption) :
    (∃ x, a = .ok x ∧ b = .ok x) ∨ (∃ e1 e2, a = .error e1 ∧ b = .error e2) := by
  cases a <;> cases b <;> cases h
  · exact .inr ⟨_, _, rfl, rfl⟩
  · exact .inl ⟨_, rfl, rfl⟩

theorem mapM_ok_forall₂ {α β ε : Type} (f : α → Except ε β) (xs : List α) (ys : List β)
    (h : xs.mapM f = .ok ys) : Pointwise (fun x y => f x = .ok y) xs ys := by
  induction xs generalizing ys with
  | nil =>
    simp only [List.mapM_nil, pure, Except.pure, Except.ok.injEq] at h
    subst h
    exact .nil
  | cons x xs ih =>
    rw [List.mapM_cons] at h
    cases hx : f x with
    | error e => rw [hx] at h; cases h
    | ok y =>
      rw [hx] at h
      cases hxs : xs.mapM f with
      | error e => rw [hxs] at h; cases h
      | ok ys' =>
        rw [hxs] at h
        simp only [bind, Except.bind, pure, Except.pure, Except.ok.injEq] at h
        subst h
        exact .cons hx (ih ys' hxs)

theorem mapM_ok_mem {α β ε : Type} (f : α → Except ε β) (l : List α) (r : List β) (h : l.mapM f = .ok r) :
    ∀ b ∈ r, ∃ a ∈ l, f a = .ok b :=
  fun _ hb => (mapM_ok_forall₂ f l r h).exists_of_mem_right hb

theorem mapM_error {α β ε : Type} (f : α → Except ε β) (l : List α) (e : ε) (h : l.mapM f = .error e) :
    ∃ a ∈ l, f a = .error e := by
  induction l with
  | nil => cases h
  | cons a as ih =>
    rw [List.mapM_cons] at h
    cases ha : f a with
    | error e' => rw [ha] at h; cases h; exact ⟨a, List.mem_cons_self, ha⟩
    | ok b =>
      cases has : as.mapM f with
      | error e' =>
        rw [ha, has] at h
        cases h
        obtain ⟨x, hx, hfx⟩ := ih has
        exact ⟨x, List.mem_cons_of_mem _ hx, hfx⟩
      | ok bs => rw [ha, has] at h; cases h

theorem mapM_congr_mem {α β ε : Type} (g1 g2 : α → Except ε β) (l : List α) (h : ∀ a ∈ l, g1 a = g2 a) :
    l.mapM g1 = l.mapM g2 := by
  induction l with
  | nil => rfl
  | cons a as ih =>
    rw [List.mapM_cons, List.mapM_cons, h a List.mem_cons_self, ih fun x hx => h x (List.mem_cons_of_mem _ hx)]

theorem mapM_toOption_congr {α β ε : Type} (g1 g2 : α → Except ε β)
    (h : ∀ a, (g1 a).toOption = (g2 a).toOption) :
    ∀ (l : List α), (l.mapM g1).toOption = (l.mapM g2).toOption
  | [] => rfl
  | a :: as => by
    rw [List.mapM_cons, List.mapM_cons]
    rcases toOption_eq_cases (h a) with ⟨x, h1, h2⟩ | ⟨e1, e2, h1, h2⟩ <;> rw [h1, h2]
    · rcases toOption_eq_cases (mapM_toOption_congr g1 g2 h as) with ⟨y, h3, h4⟩ | ⟨e1, e2, h3, h4⟩ <;>
        rw [h3, h4] <;> rfl
    · rfl

theorem foldlM_toOption_congr {α β ε : Type} (g1 g2 : β → α → Except ε β)
    (h : ∀ b a, (g1 b a).toOption = (g2 b a).toOption) :
    ∀ (l : List α) (b : β), (l.foldlM g1 b).toOption = (l.foldlM g2 b).toOption
  | [], _ => rfl
  | a :: as, b => by
    rw [List.foldlM_cons, List.foldlM_cons]
    rcases toOption_eq_cases (h b a) with ⟨x, h1, h2⟩ | ⟨e1, e2, h1, h2⟩ <;> rw [h1, h2]
    · exact foldlM_toOption_congr g1 g2 h as x
    · rfl

end Fcp
