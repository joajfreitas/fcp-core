import FcpModel.Syntax
/-!
# One step of the lexer

`lexAux` is a loop around a step that looks at the head of the input and either stops with a
message, skips an ignorable, or emits a token.  `lexStep` is that step on its own, with the three
ways of going on as parameters; `lexAux_cons` says that the loop is this step with itself as the
way of going on, and holds by unfolding.  What is proved about the lexer is proved about
`lexStep`, where there is no fuel, no line and no accumulator.
-/
namespace Fcp.Syntax

/-- a number read off the front of `cs`, with `pre` (a sign, or nothing) in front of its text -/
def numStep {β : Type} (err : String → β) (tok : Tok → List Char → β) (bad : String) (pre cs : List Char) : β :=
  match numBody cs with
  | some (s, _) => tok (.num (String.ofList (pre ++ s))) (cs.drop s.length)
  | none => err bad

/-- the step on a character that is neither layout nor the start of a comment or a string -/
def wordStep {β : Type} (err : String → β) (tok : Tok → List Char → β) (c : Char) (cs : List Char) : β :=
  if isIdStart c then
    let (a, r) := takeWhile isIdChar cs
    tok (.ident (String.ofList (c :: a))) r
  else if c.isDigit then numStep err tok "bad number" [] (c :: cs)
  else if c == '+' || c == '-' then numStep err tok s!"unexpected character {c}" [c] cs
  else if c == '.' then
    -- `.5` is a number, a lone `.` is the module path separator
    match cs with
    | d :: _ => if d.isDigit then numStep err tok "bad number" [] (c :: cs) else tok (.sym c) cs
    | [] => tok (.sym c) cs
  else if isSym c then tok (.sym c) cs
  else err s!"unexpected character {c}"

/-- the body of the lexer's loop on the input `c :: cs`: `err msg` stops, `skip r n` goes on with
`r`, `n` line feeds further down, `tok t r` emits `t` and goes on with `r` -/
def lexStep {β : Type} (err : String → β) (skip : List Char → Nat → β) (tok : Tok → List Char → β)
    (c : Char) (cs : List Char) : β :=
  if c == ' ' || c == '\t' then skip cs 0
  else if c == '\n' then skip cs 1
  else if c == '/' then
    match cs with
    | '/' :: r => skip (takeWhile (· != '\n') r).2 0
    | '*' :: r =>
      match skipBlock r 0 with
      | some (r', n) => skip r' n
      | none => err "unterminated comment"
    | _ => err "unexpected character /"
  else if c == '"' then
    match strBody cs with
    | some (s, r) => tok (.str (String.ofList s)) r
    | none => err "unterminated string"
  else wordStep err tok c cs

/-- the lexer is its step, iterated -/
theorem lexAux_cons (f : Nat) (c : Char) (cs : List Char) (line : Nat) (acc : List LTok) :
    lexAux (f + 1) (c :: cs) line acc =
      lexStep (fun m => .error ⟨m, line⟩) (fun r n => lexAux f r (line + n) acc)
        (fun t r => lexAux f r line (⟨t, line⟩ :: acc)) c cs := by
  rw [lexAux.eq_def]
  rfl

end Fcp.Syntax
