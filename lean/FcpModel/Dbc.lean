import FcpModel.Layout
import FcpModel.Lists
/-!
# Dbc: what `fcp_dbc` hands to cantools, derived from the packed layout

`expectedDbc` mirrors `dbc_writer.write_dbc` / `_make_signals` up to the arguments of
`CanSignal(...)` / `CanMessage(...)`; cantools' printer is not modelled (the generated text
is read back by an independent reader in the harness).
-/
namespace Fcp

structure DbcSignal where
  name : String
  start : Nat
  length : Nat
  bigEndian : Bool
  signed : Bool
  isFloat : Bool
  unit : Option String
  isMux : Bool
  muxIds : Option (List Nat)
  muxSignal : Option String
  deriving Repr, Inhabited

structure DbcMessage where
  frameId : Int
  name : String
  dlc : Nat
  signals : List DbcSignal
  deriving Repr, Inhabited

inductive DbcErr where
  | noLayout     -- the encoder raised (variable-size field, missing struct)
  | empty        -- `encoding[-1]` on an empty layout
  | tooBig       -- "Message … too big"
  | noId         -- "No id field found in extension"
  deriving Repr, DecidableEq, Inhabited

def xvalStr? : XVal → Option String
  | .str s => some s
  | _ => none

/-- `piece.type.is_signed()` -/
def STy.isSigned : STy → Bool
  | .i _ => true
  | _ => false

def STy.isFloat : STy → Bool
  | .f32 => true
  | .f64 => true
  | _ => false

def replaceColons (s : String) : String := s.replace "::" "_"

/-- `_make_signals` -/
def makeSignals (ls : List Leaf) : Except DbcErr (List DbcSignal × Nat) :=
  match ls.getLast? with
  | none => .error .empty
  | some last =>
    if last.start + last.len > 64 then .error .tooBig
    else
      let muxNames := ls.filterMap fun l => (l.opts.lookup "mux_signal").bind xvalStr?
      let sigs := ls.map fun l =>
        let muxCount := match l.opts.lookup "mux_count" with
          | some (.int n) => some n.toNat
          | _ => none
        { name := replaceColons l.name,
          start := if l.endian != "little" then l.start + 7 else l.start,
          length := l.len,
          bigEndian := l.endian == "big",
          signed := l.ty.isSigned,
          isFloat := l.ty.isFloat,
          unit := l.unit,
          isMux := muxNames.contains l.name,
          muxIds := muxCount.map List.range,
          muxSignal := (l.opts.lookup "mux_signal").bind xvalStr? : DbcSignal }
      .ok (sigs, (last.start + last.len + 7) / 8)

def Impl.busName (i : Impl) : String :=
  match i.fields.lookup "bus" with
  | some (.str s) => s
  | some (.int n) => toString n
  | _ => "default"

/-- one CAN binding → one message -/
def dbcMessage (S : Schema) (fuel : Nat) (i : Impl) : Except DbcErr DbcMessage :=
  match generate S true fuel i with
  | none => .error .noLayout
  | some (ls, _) =>
    match makeSignals ls with
    | .error e => .error e
    | .ok (sigs, dlc) =>
      match i.fields.lookup "id" with
      | some (.int id) => .ok { frameId := id, name := i.name, dlc := dlc, signals := sigs }
      | _ => .error .noId

/-- `buses[bus]["messages"].append(m)` on an insertion-ordered dictionary -/
def addToBus {α : Type} (out : List (String × List α)) (bus : String) (m : α) : List (String × List α) :=
  if out.any (·.1 == bus) then
    out.map fun (b, ms) => if b == bus then (b, ms ++ [m]) else (b, ms)
  else
    out ++ [(bus, [m])]

/-- the dictionary after appending every `(bus, message)` pair in order -/
def groupByBus {α : Type} (pairs : List (String × α)) : List (String × List α) :=
  pairs.foldl (fun out p => addToBus out p.1 p.2) []

/-- `write_dbc`: the messages of every CAN binding, grouped by bus in order of first
appearance; any failing binding fails the whole generation -/
def expectedDbc (S : Schema) (fuel : Nat) : Except DbcErr (List (String × List DbcMessage)) := do
  let cans := S.impls.filter (·.protocol == "can")
  let pairs ← cans.mapM fun i => (dbcMessage S fuel i).map fun m => (i.busName, m)
  return groupByBus pairs

/-- little-endian packing of one value per leaf: the concatenation of the leaves' bits -/
def packLeaves : List Leaf → List Int → Bits
  | l :: ls, v :: vs => natBits l.len (toTwos l.len v) ++ packLeaves ls vs
  | _, _ => []

/-- Intel (little-endian) extraction of `len` bits at `start`, as DBC readers do -/
def extractIntel (frame : Bits) (start len : Nat) : Nat := bitsNat ((frame.drop start).take len)

theorem extractIntel_mid (pre post : Bits) (n w : Nat) (hw : w < 2 ^ n) {s : Nat} (hs : pre.length = s) :
    extractIntel (pre ++ natBits n w ++ post) s n = w := by
  unfold extractIntel
  rw [slice_mid pre _ post hs (natBits_length n w)]
  exact bitsNat_natBits n w hw

/-! A packed frame is one piece per leaf, laid end to end.  What the two packings (`packLeaves`,
`packLeavesE`) share is proved for an arbitrary `piece` of the leaf's width. -/

theorem packLeaves_eq (ls : List Leaf) (vs : List Int) :
    packLeaves ls vs = (List.zipWith (fun l v => natBits l.len (toTwos l.len v)) ls vs).flatten := by
  induction ls generalizing vs with
  | nil => rfl
  | cons l ls ih => cases vs with
    | nil => rfl
    | cons v vs => simp only [packLeaves, ih, List.zipWith_cons_cons, List.flatten_cons]

theorem Tiles.pack_length (piece : Leaf → Int → Bits) {c e : Nat} {ls : List Leaf} (h : Tiles c ls e)
    (vs : List Int) (hv : vs.length = ls.length) (hlen : ∀ l ∈ ls, ∀ v, (piece l v).length = l.len) :
    c + (List.zipWith piece ls vs).flatten.length = e := by
  induction ls generalizing c vs with
  | nil => exact h
  | cons l ls ih =>
    cases vs with
    | nil => cases hv
    | cons v vs =>
      have := ih h.2 vs (Nat.succ.inj hv) fun x hx => hlen x (List.mem_cons_of_mem _ hx)
      simp only [List.zipWith_cons_cons, List.flatten_cons, List.length_append,
        hlen l List.mem_cons_self]
      omega

/-- the frame splits around the `k`-th piece at the `k`-th leaf's offset -/
theorem Tiles.pack_split (piece : Leaf → Int → Bits) {c e : Nat} {ls : List Leaf} (h : Tiles c ls e)
    (vs : List Int) (hv : vs.length = ls.length) (hlen : ∀ l ∈ ls, ∀ v, (piece l v).length = l.len)
    (k : Nat) (hk : k < ls.length) :
    ∃ pre post, (List.zipWith piece ls vs).flatten = pre ++ piece ls[k] (vs[k]'(by omega)) ++ post ∧
      c + pre.length = ls[k].start := by
  induction ls generalizing c vs k with
  | nil => cases hk
  | cons l ls ih =>
    cases vs with
    | nil => cases hv
    | cons v vs =>
      cases k with
      | zero => exact ⟨[], _, rfl, h.1.symm⟩
      | succ k =>
        obtain ⟨pre, post, h1, h2⟩ := ih h.2 vs (Nat.succ.inj hv)
          (fun x hx => hlen x (List.mem_cons_of_mem _ hx)) k (Nat.lt_of_succ_lt_succ hk)
        refine ⟨piece l v ++ pre, post, ?_, ?_⟩
        · simp only [List.zipWith_cons_cons, List.flatten_cons, h1, List.getElem_cons_succ,
            List.append_assoc]
        · rw [List.length_append, hlen l List.mem_cons_self, ← Nat.add_assoc]; exact h2

theorem packLeaves_length (e : Nat) (ls : List Leaf) (vs : List Int) (h : Tiles 0 ls e)
    (hv : vs.length = ls.length) : (packLeaves ls vs).length = e := by
  have := h.pack_length _ vs hv fun l _ v => natBits_length l.len (toTwos l.len v)
  rw [packLeaves_eq]; omega

/-- **decode ∘ pack = id (Intel)**: in a frame packed from a tiling layout, extracting the
bit range of the `k`-th leaf returns the two's-complement word of the `k`-th value -/
theorem extract_pack (ls : List Leaf) (vs : List Int) (e : Nat) (h : Tiles 0 ls e)
    (hv : vs.length = ls.length) (k : Nat) (hk : k < ls.length) :
    extractIntel (packLeaves ls vs) ls[k].start ls[k].len = toTwos ls[k].len (vs[k]'(by omega)) := by
  obtain ⟨pre, post, h1, h2⟩ := h.pack_split _ vs hv (fun l _ v => natBits_length l.len (toTwos l.len v)) k hk
  rw [packLeaves_eq, h1]
  exact extractIntel_mid pre post _ _ (toTwos_lt _ _) (by omega)

theorem makeSignals_ok_fits {ls : List Leaf} {sigs : List DbcSignal} {dlc c e : Nat}
    (ht : Tiles c ls e) (h : makeSignals ls = .ok (sigs, dlc)) : e ≤ 64 ∧ dlc = (e + 7) / 8 := by
  unfold makeSignals at h
  split at h
  · cases h
  · rename_i last hlast
    rw [ht.getLast hlast] at h
    split at h
    · cases h
    · simp only [Except.ok.injEq, Prod.mk.injEq] at h
      exact ⟨by omega, h.2.symm⟩

/-- a message is emitted only for a layout that fits a frame; its length is `⌈bits/8⌉` -/
theorem dbcMessage_ok_fits {S : Schema} {fuel : Nat} {i : Impl} {m : DbcMessage} {ls : List Leaf}
    {e : Nat} (hg : generate S true fuel i = some (ls, e)) (h : dbcMessage S fuel i = .ok m) :
    e ≤ 64 ∧ m.dlc = (e + 7) / 8 ∧ m.name = i.name := by
  unfold dbcMessage at h
  rw [hg] at h
  simp only at h
  split at h
  · cases h
  · rename_i sigs dlc hm
    have hf := makeSignals_ok_fits (generate_tiles S true fuel i ls e hg) hm
    split at h
    · cases h; exact ⟨hf.1, hf.2, rfl⟩
    · cases h

/-- `⌈e/8⌉` bytes hold `e` bits, and 64 bits need at most 8 -/
theorem dlc_fits {e d : Nat} (h : e ≤ 64 ∧ d = (e + 7) / 8) : e ≤ 8 * d ∧ d ≤ 8 := by omega

end Fcp
