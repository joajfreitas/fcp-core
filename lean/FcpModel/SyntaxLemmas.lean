import FcpModel.Syntax
/-!
# Parsing inverts printing, at token level, for the recursive productions `value` and `type`

Printing is a relation (`ValToks v ts`, `TyToks t ts`): "the token list `ts` is a printing of
the tree" — any line numbers, and for words any spelling the word classifier accepts.
-/
namespace Fcp.Syntax

/-- number of nodes of a value: bounds both the nesting depth and the array lengths, which is
what the parser's fuel has to cover -/
def PVal.depth : PVal → Nat
  | .arr items => items.depth + 1
  | .cons v r => v.depth + r.depth + 1
  | _ => 1

theorem PVal.depth_pos (v : PVal) : 0 < v.depth := by
  cases v <;> exact Nat.succ_pos _

def PVal.chainLen : PVal → Nat
  | .cons _ r => r.chainLen + 1
  | _ => 0

mutual
/-- `ValToks v ts`: `ts` prints the value `v` -/
inductive ValToks : PVal → List LTok → Prop where
  | num (s : String) (l : Nat) : ValToks (.num s) [⟨.num s, l⟩]
  | str (s : String) (l : Nat) : ValToks (.str s) [⟨.str s, l⟩]
  | ident (s : String) (l : Nat) : ValToks (.ident s) [⟨.ident s, l⟩]
  | arr (items : PVal) (ts : List LTok) (l : Nat) (h : ItemsToks items ts) :
      ValToks (.arr items) (⟨.sym '[', l⟩ :: ts)
/-- `ItemsToks items ts`: `ts` prints `v , v , … ]` (at least one value, then the bracket) -/
inductive ItemsToks : PVal → List LTok → Prop where
  | last (v : PVal) (ts : List LTok) (l : Nat) (h : ValToks v ts) :
      ItemsToks (.cons v .nil) (ts ++ [⟨.sym ']', l⟩])
  | more (v r : PVal) (ts rs : List LTok) (l : Nat) (h : ValToks v ts) (hr : ItemsToks r rs) :
      ItemsToks (.cons v r) (ts ++ ⟨.sym ',', l⟩ :: rs)
end

theorem chainLen_le_depth (items : PVal) : items.chainLen ≤ items.depth := by
  induction items with
  | cons v r _ ih => simp only [PVal.chainLen, PVal.depth]; omega
  | _ => exact Nat.zero_le _

/-- the items of an array parse back as soon as values do, at the same value fuel -/
theorem parseItems_print_of (f : Nat)
    (hv : ∀ (v : PVal) (ts : List LTok), ValToks v ts → ∀ (last : Nat) (rest : List LTok), v.depth ≤ f →
      parseValue f last (ts ++ rest) = .ok (v, rest)) :
    ∀ (g : Nat) (items : PVal) (ts : List LTok), ItemsToks items ts → ∀ (last : Nat) (rest : List LTok),
    items.depth ≤ f → items.chainLen ≤ g → parseValue.parseItems f g last (ts ++ rest) = .ok (items, rest) := by
  intro g
  induction g with
  | zero => intro items ts h last rest _ hg; cases h <;> simp [PVal.chainLen] at hg
  | succ g ih =>
    intro items ts h last rest hf hg
    cases h with
    | last v ts l h =>
      simp only [PVal.depth] at hf
      simp only [List.append_assoc, List.singleton_append, parseValue.parseItems, hv v ts h last _ (by omega), bind,
        Except.bind]
    | more v r ts rs l h hr =>
      simp only [PVal.depth] at hf
      simp only [PVal.chainLen, Nat.add_le_add_iff_right] at hg
      simp only [List.append_assoc, List.cons_append, parseValue.parseItems, hv v ts h last _ (by omega), bind,
        Except.bind, ih r rs hr l rest (by omega) hg]

theorem parseValue_print : ∀ (v : PVal) (ts : List LTok), ValToks v ts →
    ∀ (f last : Nat) (rest : List LTok), v.depth ≤ f →
    parseValue f last (ts ++ rest) = .ok (v, rest) := by
  intro v ts h f
  induction f generalizing v ts with
  | zero => intro last rest hf; exact absurd hf (Nat.not_le_of_gt v.depth_pos)
  | succ f ih =>
    intro last rest hf
    cases h with
    | arr items ts l h =>
      simp only [PVal.depth, Nat.add_le_add_iff_right] at hf
      simp only [List.cons_append, parseValue,
        parseItems_print_of f (fun v ts h last rest => ih v ts h last rest) f items ts h l rest hf
          (Nat.le_trans (chainLen_le_depth items) hf), bind, Except.bind]
    | _ => simp only [List.cons_append, List.nil_append, parseValue]

theorem parseItems_print : ∀ (items : PVal) (ts : List LTok), ItemsToks items ts →
    ∀ (f g last : Nat) (rest : List LTok), items.depth ≤ f → items.chainLen ≤ g →
    parseValue.parseItems f g last (ts ++ rest) = .ok (items, rest) :=
  fun items ts h f g last rest => parseItems_print_of f (fun v ts h last rest => parseValue_print v ts h f last rest)
    g items ts h last rest

/-! ## types -/

def PTy.depth : PTy → Nat
  | .arr t _ => t.depth + 1
  | .dyn t => t.depth + 1
  | .opt t => t.depth + 1
  | _ => 1

theorem PTy.depth_pos (t : PTy) : 0 < t.depth := by
  cases t <;> exact Nat.succ_pos _

/-- a word the type production reads as a user type name -/
def PlainName (s : String) : Prop :=
  (s == "Optional") = false ∧ (s == "f32") = false ∧ (s == "f64") = false ∧ (s == "str") = false ∧
    numericType s = none

/-- `TyToks t ts`: `ts` prints the type `t` (any spelling of `u<n>`/`i<n>` the classifier accepts) -/
inductive TyToks : PTy → List LTok → Prop where
  | u (n : Nat) (s : String) (l : Nat) (h : numericType s = some (.u n))
      (h1 : (s == "Optional") = false) (h2 : (s == "f32") = false) (h3 : (s == "f64") = false)
      (h4 : (s == "str") = false) : TyToks (.u n) [⟨.ident s, l⟩]
  | i (n : Nat) (s : String) (l : Nat) (h : numericType s = some (.i n))
      (h1 : (s == "Optional") = false) (h2 : (s == "f32") = false) (h3 : (s == "f64") = false)
      (h4 : (s == "str") = false) : TyToks (.i n) [⟨.ident s, l⟩]
  | f32 (l : Nat) : TyToks .f32 [⟨.ident "f32", l⟩]
  | f64 (l : Nat) : TyToks .f64 [⟨.ident "f64", l⟩]
  | str (l : Nat) : TyToks .str [⟨.ident "str", l⟩]
  | named (s : String) (l : Nat) (h : PlainName s) : TyToks (.named s l) [⟨.ident s, l⟩]
  | arr (t : PTy) (ts : List LTok) (size : String) (l1 l2 l3 l4 : Nat) (h : TyToks t ts) :
      TyToks (.arr t size) (⟨.sym '[', l1⟩ :: ts ++ [⟨.sym ',', l2⟩, ⟨.num size, l3⟩, ⟨.sym ']', l4⟩])
  | dyn (t : PTy) (ts : List LTok) (l1 l2 : Nat) (h : TyToks t ts) :
      TyToks (.dyn t) (⟨.sym '[', l1⟩ :: ts ++ [⟨.sym ']', l2⟩])
  | opt (t : PTy) (ts : List LTok) (l1 l2 l3 : Nat) (h : TyToks t ts) :
      TyToks (.opt t) (⟨.ident "Optional", l1⟩ :: ⟨.sym '[', l2⟩ :: ts ++ [⟨.sym ']', l3⟩])

/-- **parsing inverts printing** for the recursive `type` production, to any nesting depth -/
theorem parseType_print (t : PTy) (ts : List LTok) (h : TyToks t ts) :
    ∀ (f last : Nat) (rest : List LTok), t.depth ≤ f →
    parseType f last (ts ++ rest) = .ok (t, rest) := by
  intro f
  induction f generalizing t ts with
  | zero => intro last rest hf; exact absurd hf (Nat.not_le_of_gt t.depth_pos)
  | succ f ih =>
    intro last rest hf
    cases h with
    | u n s l h h1 h2 h3 h4 | i n s l h h1 h2 h3 h4 =>
      simp only [List.cons_append, List.nil_append, parseType, h, h1, h2, h3, h4, Bool.false_eq_true, ↓reduceIte]
    | named s l h =>
      obtain ⟨h1, h2, h3, h4, h5⟩ := h
      simp only [List.cons_append, List.nil_append, parseType, h1, h2, h3, h4, h5, Bool.false_eq_true, ↓reduceIte]
    | arr t ts size l1 l2 l3 l4 h =>
      simp only [PTy.depth, Nat.add_le_add_iff_right] at hf
      simp only [List.cons_append, List.append_assoc, List.nil_append, parseType, ih t ts h l1 _ hf, bind, Except.bind,
        expectNum, expectSym, beq_self_eq_true, ↓reduceIte]
    | dyn t ts l1 l2 h =>
      simp only [PTy.depth, Nat.add_le_add_iff_right] at hf
      simp only [List.cons_append, List.append_assoc, List.nil_append, parseType, ih t ts h l1 _ hf, bind, Except.bind]
    | opt t ts l1 l2 l3 h =>
      simp only [PTy.depth, Nat.add_le_add_iff_right] at hf
      simp only [List.cons_append, List.append_assoc, List.nil_append, parseType, ih t ts h l2 _ hf, bind, Except.bind,
        expectSym, beq_self_eq_true, ↓reduceIte]
    | _ => simp [parseType]

end Fcp.Syntax
