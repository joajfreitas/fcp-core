/-!
# Lists: facts about core's lists that the models share

Slices and `getD`; lists whose keys are distinct; two lists related element by element.
Nothing here speaks of fcp.
-/
namespace Fcp

theorem append_congr {α : Type} {a a' b b' : List α} (ha : a = a') (hb : b = b') : a ++ b = a' ++ b' :=
  ha ▸ hb ▸ rfl

theorem slice_mid {α : Type} (pre mid post : List α) {s n : Nat} (hs : pre.length = s)
    (hn : mid.length = n) : ((pre ++ mid ++ post).drop s).take n = mid := by
  rw [List.append_assoc, List.drop_left' hs, List.take_left' hn]

theorem reverse_take_drop_succ {α : Type} (l : List α) (s i : Nat) (d : α) (h : s + i < l.length) :
    ((l.drop s).take (i + 1)).reverse = l.getD (s + i) d :: ((l.drop s).take i).reverse := by
  rw [List.take_add_one, List.getElem?_drop, List.getD_eq_getElem?_getD, List.getElem?_eq_getElem h]
  simp only [Option.toList_some, List.reverse_append, List.reverse_singleton, List.singleton_append,
    Option.getD_some]

theorem getD_zipWith {α β γ : Type} (f : α → β → γ) (l : List α) (l' : List β) (i : Nat)
    (h : i < l.length) (h' : i < l'.length) (d : γ) (a : α) (b : β) :
    (List.zipWith f l l').getD i d = f (l.getD i a) (l'.getD i b) := by
  simp only [List.getD_eq_getElem?_getD, List.getElem?_zipWith, List.getElem?_eq_getElem h,
    List.getElem?_eq_getElem h', Option.getD_some]

theorem getD_concat {α : Type} (B : List α) (x d : α) (q : Nat) :
    (B ++ [x]).getD q d = if q = B.length then x else B.getD q d := by
  simp only [List.getD_eq_getElem?_getD, List.getElem?_append, List.getElem?_singleton]
  by_cases h : q < B.length
  · rw [if_pos h, if_neg (Nat.ne_of_lt h)]
  · have h := Nat.le_of_not_lt h
    rw [if_neg (Nat.not_lt.mpr h), List.getElem?_eq_none h]
    by_cases hq : q = B.length
    · rw [if_pos hq, if_pos (hq ▸ Nat.sub_self _)]; rfl
    · rw [if_neg hq, if_neg (fun h0 => hq (Nat.le_antisymm (Nat.le_of_sub_eq_zero h0) h))]

/-- two lists that agree at every index once padded with `d` differ by a tail of `d`s -/
theorem eq_append_replicate_of_getD {α : Type} (d : α) : ∀ (l₁ l₂ : List α), l₂.length ≤ l₁.length →
    (∀ p, l₁.getD p d = l₂.getD p d) → l₁ = l₂ ++ List.replicate (l₁.length - l₂.length) d
  | l₁, [], _, h => by
    refine List.eq_replicate_iff.mpr ⟨rfl, fun b hb => ?_⟩
    obtain ⟨i, hi, rfl⟩ := List.getElem_of_mem hb
    simpa [List.getD_eq_getElem?_getD, hi] using h i
  | [], _ :: _, hl, _ => by cases hl
  | x :: xs, y :: ys, hl, h => by
    have h0 : x = y := h 0
    have := eq_append_replicate_of_getD d xs ys (Nat.le_of_succ_le_succ hl) fun p => h (p + 1)
    simp only [List.length_cons, Nat.add_sub_add_right, List.cons_append, h0]
    rw [← this]

/-! ## distinct keys

When the keys `f x` of a list are pairwise distinct, a key determines its element; so searching by
key (`find?`, `lookup`) finds exactly the members, and does not depend on the order of the list. -/

theorem eq_of_nodup_map {α β : Type} (f : α → β) (l : List α) (hn : (l.map f).Nodup)
    {a b : α} (ha : a ∈ l) (hb : b ∈ l) (h : f a = f b) : a = b :=
  have hp : l.Pairwise fun a b => f a = f b → a = b :=
    (List.pairwise_map.mp hn).imp fun hne h => absurd h hne
  hp.forall_of_forall_of_flip (fun _ _ _ => rfl) (hp.imp fun h e => (h e.symm).symm) ha hb h

section
variable {α β : Type} [BEq β] [LawfulBEq β]

theorem find?_key_eq_some (f : α → β) {l : List α} (hn : (l.map f).Nodup) {a : α} (ha : a ∈ l) :
    l.find? (f · == f a) = some a := by
  cases h : l.find? (f · == f a) with
  | none => exact absurd (beq_self_eq_true _) (List.find?_eq_none.mp h a ha)
  | some b =>
    have hb := List.find?_some h
    exact congrArg some (eq_of_nodup_map f l hn (List.mem_of_find?_eq_some h) ha (eq_of_beq hb))

theorem find?_key_perm (f : α → β) {l l' : List α} (p : l.Perm l') (hn : (l.map f).Nodup) (k : β) :
    l.find? (f · == k) = l'.find? (f · == k) := by
  cases h : l.find? (f · == k) with
  | none =>
    exact (List.find?_eq_none.mpr fun x hx => List.find?_eq_none.mp h x (p.mem_iff.mpr hx)).symm
  | some a =>
    have ha := List.find?_some h
    obtain rfl := eq_of_beq ha
    exact (find?_key_eq_some f ((p.map f).nodup_iff.mp hn)
      (p.mem_iff.mp (List.mem_of_find?_eq_some h))).symm

theorem lookup_eq_find? (l : List (β × α)) (k : β) :
    l.lookup k = (l.find? (·.1 == k)).map (·.2) := by
  induction l with
  | nil => rfl
  | cons x xs ih =>
    obtain ⟨a, b⟩ := x
    rw [List.lookup_cons, List.find?_cons, ih, BEq.comm]
    dsimp only
    cases a == k <;> rfl

theorem lookup_perm {l l' : List (β × α)} (p : l.Perm l') (hn : (l.map (·.1)).Nodup) (k : β) :
    l.lookup k = l'.lookup k := by
  rw [lookup_eq_find?, lookup_eq_find?, find?_key_perm (·.1) p hn]

theorem lookup_filter_ne (l : List (β × α)) {k p : β} (h : k ≠ p) :
    (l.filter (·.1 != p)).lookup k = l.lookup k := by
  rw [lookup_eq_find?, lookup_eq_find?, List.find?_filter]
  congr; funext x
  by_cases hx : x.1 = k <;> simp [hx, h]

end

/-! ## element by element -/

/-- two lists related element by element (core Lean has no `Forall₂`) -/
inductive Pointwise {α β : Type} (R : α → β → Prop) : List α → List β → Prop
  | nil : Pointwise R [] []
  | cons {x y xs ys} : R x y → Pointwise R xs ys → Pointwise R (x :: xs) (y :: ys)

theorem Pointwise.length_eq {α β : Type} {R : α → β → Prop} {xs : List α} {ys : List β}
    (h : Pointwise R xs ys) : xs.length = ys.length := by
  induction h with
  | nil => rfl
  | cons _ _ ih => exact congrArg (· + 1) ih

theorem Pointwise.imp {α β : Type} {R R' : α → β → Prop} {xs : List α} {ys : List β}
    (hi : ∀ x y, R x y → R' x y) (h : Pointwise R xs ys) : Pointwise R' xs ys := by
  induction h with
  | nil => exact .nil
  | cons hr _ ih => exact .cons (hi _ _ hr) ih

theorem Pointwise.exists_of_mem_left {α β : Type} {R : α → β → Prop} {xs : List α} {ys : List β}
    (h : Pointwise R xs ys) {x : α} (hx : x ∈ xs) : ∃ y ∈ ys, R x y := by
  induction h with
  | nil => cases hx
  | cons hr _ ih =>
    rcases List.mem_cons.1 hx with rfl | hm
    · exact ⟨_, List.mem_cons_self, hr⟩
    · obtain ⟨y, hy, hr'⟩ := ih hm
      exact ⟨y, List.mem_cons_of_mem _ hy, hr'⟩

theorem Pointwise.exists_of_mem_right {α β : Type} {R : α → β → Prop} {xs : List α} {ys : List β}
    (h : Pointwise R xs ys) {y : β} (hy : y ∈ ys) : ∃ x ∈ xs, R x y := by
  induction h with
  | nil => cases hy
  | cons hr _ ih =>
    rcases List.mem_cons.1 hy with rfl | hm
    · exact ⟨_, List.mem_cons_self, hr⟩
    · obtain ⟨x, hx, hr'⟩ := ih hm
      exact ⟨x, List.mem_cons_of_mem _ hx, hr'⟩

theorem Pointwise.map_right {α β γ : Type} {R : α → γ → Prop} (f : β → γ) {xs : List α} {ys : List β}
    (h : Pointwise (fun x y => R x (f y)) xs ys) : Pointwise R xs (ys.map f) := by
  induction h with
  | nil => exact .nil
  | cons hr _ ih => exact .cons hr ih

theorem Pointwise.filter {α β : Type} {R : α → β → Prop} {p : α → Bool} {q : β → Bool}
    {xs : List α} {ys : List β} (hpq : ∀ x y, R x y → p x = q y) (h : Pointwise R xs ys) :
    Pointwise R (xs.filter p) (ys.filter q) := by
  induction h with
  | nil => exact .nil
  | cons hr _ ih =>
    simp only [List.filter_cons, hpq _ _ hr]
    split
    · exact .cons hr ih
    · exact ih

end Fcp
