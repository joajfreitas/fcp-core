import FcpModel.SyntaxLines
import FcpModel.Frontend
/-!
# Rendering of error values (`error.py`: `Logger.error`, `log_node`, `log_location`)

An error value is a chain of messages, each with an optional node; rendering prints a header
per message and, for a message with a node, the cited source line between two ruler lines.
The source is looked up in the logger's registry (full path first, base name second: a
`KeyError` if neither is registered) and split at line feeds; the line is taken with Python's
list indexing (`lines[line - 1]`: an `IndexError` beyond the end, the *last* line for 0).

The model works on character lists, without colour codes and without the
`[<python file>:<line>]` entries that name the place in the implementation which raised the
error; the harness strips both from the implementation's text before comparing.

Proved here: rendering succeeds exactly when every cited source is registered and every cited
line is at most the number of lines (`render_isSome_iff`), and then the line printed under a
citation is that line of that source (`renderMsg_eq`).  `FcpProps/C11.lean` composes this with
`parseText_lines`: the lexical and syntax errors of the reference front end can always be
rendered.
-/
namespace Fcp.Render
open Fcp.Syntax

/-- Python `text.split("\n")` -/
def splitNl : List Char → List (List Char)
  | [] => [[]]
  | c :: cs =>
    if c = '\n' then [] :: splitNl cs
    else match splitNl cs with
      | [] => [[c]]
      | l :: ls => (c :: l) :: ls

theorem splitNl_length (cs : List Char) : (splitNl cs).length = 1 + nl cs := by
  induction cs with
  | nil => simp [splitNl, nl]
  | cons c cs ih =>
    by_cases hc : c = '\n'
    · simp [splitNl, nl, hc, ih]; omega
    · have hb : (c == '\n') = false := by simp [hc]
      simp only [splitNl, hc, if_false, nl, hb]
      cases h : splitNl cs with
      | nil => rw [h] at ih; simp at ih; omega
      | cons l ls => rw [h] at ih; simp at ih ⊢; omega

/-- Python `lines[line - 1]` for a natural `line`: index −1 is the last element -/
def lineAt {α : Type} (ls : List α) : Nat → Option α
  | 0 => ls.getLast?
  | n + 1 => ls[n]?

theorem lineAt_isSome {α : Type} (ls : List α) (hne : ls ≠ []) (line : Nat) :
    (lineAt ls line).isSome ↔ line ≤ ls.length := by
  cases line with
  | zero =>
    cases ls with
    | nil => exact absurd rfl hne
    | cons a as => simp [lineAt, List.getLast?_isSome]
  | succ n =>
    simp only [lineAt]
    constructor
    · intro h
      cases hx : ls[n]? with
      | none => rw [hx] at h; cases h
      | some x =>
        have := List.getElem?_eq_some_iff.mp hx
        obtain ⟨hlt, _⟩ := this
        omega
    · intro h
      have hlt : n < ls.length := by omega
      rw [List.getElem?_eq_getElem hlt]; rfl

/-- a citation: the key of the full path, the base name, the line -/
structure Cite where
  full : String
  base : String
  line : Nat
  deriving Repr, DecidableEq

structure RMsg where
  text : List Char
  cite : Option Cite := none
  deriving Repr

/-- the logger's registry: key (full path or base name) → text -/
abbrev Sources := List (String × List Char)

def findSource (srcs : Sources) (c : Cite) : Option (List Char) :=
  match srcs.lookup c.full with
  | some s => some s
  | none => srcs.lookup c.base

def expandTabs (l : List Char) : List Char :=
  l.flatMap fun c => if c = '\t' then [' ', ' ', ' ', ' '] else [c]

/-- `Logger.log_location` without colours -/
def logLocation (src : List Char) (line : Nat) : List Char :=
  let d := (Nat.repr line).toList
  let blank := List.replicate d.length ' ' ++ [' ', '|']
  blank ++ ['\n'] ++ d ++ [' ', '|', ' '] ++ src ++ ['\n'] ++
    blank ++ [' '] ++ List.replicate (expandTabs src).length '~' ++ ['\n']

def header (first : Bool) (m : RMsg) : List Char :=
  (if first then "  → Error: " else "  ↳ ").toList ++ m.text

def citeLine (c : Cite) : List Char :=
  "\n   ↳ [".toList ++ c.base.toList ++ [':'] ++ (Nat.repr c.line).toList ++ [']']

/-- `format_msg` of `Logger.error` -/
def renderMsg (srcs : Sources) (first : Bool) (m : RMsg) : Option (List Char) :=
  match m.cite with
  | none => some (header first m ++ ['\n'])
  | some c =>
    match findSource srcs c with
    | none => none
    | some src =>
      match lineAt (splitNl src) c.line with
      | none => none
      | some l => some (header first m ++ citeLine c ++ ['\n'] ++ logLocation l c.line)

/-- `Logger.error`: the first message carries the `Error:` prefix -/
def render (srcs : Sources) : Bool → List RMsg → Option (List Char)
  | _, [] => some []
  | first, m :: ms =>
    match renderMsg srcs first m, render srcs false ms with
    | some a, some b => some (a ++ b)
    | _, _ => none

/-- a message can be rendered: its source is registered and its line is not beyond the end -/
def Renderable (srcs : Sources) (m : RMsg) : Prop :=
  ∀ c, m.cite = some c → ∃ src, findSource srcs c = some src ∧ c.line ≤ 1 + nl src

theorem lineAt_splitNl_isSome (src : List Char) (line : Nat) :
    (lineAt (splitNl src) line).isSome ↔ line ≤ 1 + nl src := by
  rw [← splitNl_length]
  refine lineAt_isSome _ (fun h => ?_) line
  have := splitNl_length src
  simp only [h, List.length_nil] at this
  omega

theorem renderMsg_isSome_iff (srcs : Sources) (first : Bool) (m : RMsg) :
    (renderMsg srcs first m).isSome ↔ Renderable srcs m := by
  unfold Renderable
  cases hc : m.cite with
  | none => simp [renderMsg, hc]
  | some c =>
    cases hs : findSource srcs c with
    | none => simp [renderMsg, hc, hs]
    | some src =>
      simp only [renderMsg, hc, hs, Option.some.injEq, forall_eq', exists_eq_left', ← lineAt_splitNl_isSome]
      -- not `Iff.rfl`: unification would first compare the rendered text with the quoted line
      cases lineAt (splitNl src) c.line <;> simp only [Option.isSome_none, Option.isSome_some]

theorem render_cons_isSome (srcs : Sources) (first : Bool) (m : RMsg) (ms : List RMsg) :
    (render srcs first (m :: ms)).isSome = ((renderMsg srcs first m).isSome && (render srcs false ms).isSome) := by
  rw [render]
  cases renderMsg srcs first m <;> cases render srcs false ms <;> rfl

/-- **rendering succeeds exactly when every citation can be resolved** -/
theorem render_isSome_iff (srcs : Sources) (first : Bool) (ms : List RMsg) :
    (render srcs first ms).isSome ↔ ∀ m ∈ ms, Renderable srcs m := by
  induction ms generalizing first with
  | nil => simp [render]
  | cons m ms ih =>
    rw [render_cons_isSome, Bool.and_eq_true, ih, renderMsg_isSome_iff, List.forall_mem_cons]

/-- **what is printed under a citation is that line of that source** -/
theorem renderMsg_eq (srcs : Sources) (first : Bool) (m : RMsg) (c : Cite) (out : List Char)
    (hc : m.cite = some c) (h : renderMsg srcs first m = some out) :
    ∃ src l, findSource srcs c = some src ∧ lineAt (splitNl src) c.line = some l ∧
      out = header first m ++ citeLine c ++ ['\n'] ++ logLocation l c.line := by
  cases hs : findSource srcs c with
  | none => simp [renderMsg, hc, hs] at h
  | some src =>
    cases hl : lineAt (splitNl src) c.line with
    | none => simp [renderMsg, hc, hs, hl] at h
    | some l =>
      simp only [renderMsg, hc, hs, hl, Option.some.injEq] at h
      exact ⟨src, l, rfl, hl, h.symm⟩

/-- the citation of an entry of the loader's error chain: file and line, if a node is attached -/
def ofEMsg (m : Frontend.EMsg) : RMsg :=
  { text := m.text.toList,
    cite := match m.file, m.line with
      | some f, some l => some ⟨f, f, l⟩
      | _, _ => none }

end Fcp.Render
