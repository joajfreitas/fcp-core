import FcpModel.FrontendLemmas
/-!
# Module imports are transparent (C20): what a caller observes of the walk over a file

The caller of a transformer sees the tree, unless some declaration failed (`St.res`).  On that
observable a step is a `bind` (`step_res`), and what a declaration other than `mod` contributes
does not depend on the loader, the file system or the name of the file (`declDelta_file`: the
file name only shows up inside error values).
-/
namespace Fcp.Frontend
open Fcp.Syntax

def foldDecls (loader : List String → String → Except Err Tree) (fs : FS) (path : List String)
    (s : St) (ds : List PDecl) : St :=
  ds.foldl (fun s d => elabDecl loader fs path s d) s

/-- what the caller of a transformer observes: the tree, unless some declaration failed -/
def St.res (s : St) : Option Tree := if s.firstErr.isSome then none else some s.tree

def isMod : PDecl → Bool
  | .mod _ _ => true
  | _ => false

def ModFree (ds : List PDecl) : Prop := ∀ d ∈ ds, isMod d = false

/-! ### the file name only shows up inside error values -/

theorem elabType_file (t : Tree) (f1 f2 : String) (p : PTy) :
    (elabType t f1 p).toOption = (elabType t f2 p).toOption := by
  induction p with
  | named s l =>
    simp only [elabType]
    split
    · rfl
    · split <;> rfl
  | arr e sz ih => rcases toOption_eq_cases ih with ⟨x, h1, h2⟩ | ⟨e1, e2, h1, h2⟩ <;> simp only [elabType, h1, h2] <;> rfl
  | dyn e ih => rcases toOption_eq_cases ih with ⟨x, h1, h2⟩ | ⟨e1, e2, h1, h2⟩ <;> simp only [elabType, h1, h2] <;> rfl
  | opt e ih => rcases toOption_eq_cases ih with ⟨x, h1, h2⟩ | ⟨e1, e2, h1, h2⟩ <;> simp only [elabType, h1, h2] <;> rfl
  | _ => rfl

theorem elabParams_file (f1 f2 : String) (line : Nat) (ps : List PParam) :
    (elabParams f1 line ps).toOption = (elabParams f2 line ps).toOption := by
  refine foldlM_toOption_congr _ _ (fun b a => ?_) _ _
  obtain ⟨name, args⟩ := a
  dsimp only
  -- `split` on these two `if`s costs five times as much
  by_cases hu : name == "unit"
  · rw [if_pos hu, if_pos hu]; split <;> rfl
  · rw [if_neg hu, if_neg hu]
    by_cases hr : name == "range"
    · rw [if_pos hr, if_pos hr]
      split
      · split <;> rfl
      · rfl
    · rw [if_neg hr, if_neg hr]; rfl

theorem elabField_file (t : Tree) (f1 f2 sname : String) (f : PField) :
    (elabField t f1 sname f).toOption = (elabField t f2 sname f).toOption := by
  unfold elabField
  rcases toOption_eq_cases (elabParams_file f1 f2 f.line f.params) with ⟨x, h1, h2⟩ | ⟨e1, e2, h1, h2⟩ <;>
    rw [h1, h2]
  · cases pyInt? f.id with
    | none => rfl
    | some i =>
      rcases toOption_eq_cases (elabType_file t f1 f2 f.ty) with ⟨y, h3, h4⟩ | ⟨e1, e2, h3, h4⟩ <;>
        simp only [bind, Except.bind, pure, Except.pure, h3, h4] <;> rfl
  · rfl

theorem elabEnumItem_file (f1 f2 : String) (it : String × PVal × Nat) :
    (elabEnumItem f1 it).toOption = (elabEnumItem f2 it).toOption := by
  unfold elabEnumItem
  split
  · split <;> rfl
  · rfl

theorem elabMethod_file (f1 f2 : String) (m : PMethod) :
    (elabMethod f1 m).toOption = (elabMethod f2 m).toOption := by
  unfold elabMethod; split <;> rfl

theorem declDelta_file (l1 l2 : List String → String → Except Err Tree) (fs1 fs2 : FS)
    (p1 p2 : List String) (t : Tree) (d : PDecl) (hd : isMod d = false) :
    (declDelta l1 fs1 p1 t d).toOption = (declDelta l2 fs2 p2 t d).toOption := by
  cases d with
  | mod mp l => cases hd
  | struct name fields line =>
    simp only [declDelta, toOption_map, mapM_toOption_congr _ _ (elabField_file t (p1.getLast?.getD "") (p2.getLast?.getD "") name)]
  | «enum» name items line =>
    simp only [declDelta]
    split
    · rfl
    · simp only [toOption_map, mapM_toOption_congr _ _ (elabEnumItem_file (p1.getLast?.getD "") (p2.getLast?.getD ""))]
  | service name id methods line =>
    simp only [declDelta]
    split
    · rfl
    · simp only [toOption_map, mapM_toOption_congr _ _ (elabMethod_file (p1.getLast?.getD "") (p2.getLast?.getD ""))]
  | _ => rfl

theorem res_eq_some {s : St} {t : Tree} (h : s.res = some t) : s.firstErr = none ∧ s.tree = t := by
  cases hs : s.firstErr with
  | some e => simp [St.res, hs] at h
  | none => simpa [St.res, hs] using h

/-- on the observable state a step is a `bind`: errors are sticky, a contribution is merged -/
theorem step_res (s : St) (r : Except Err Tree) :
    (s.step r).res = s.res.bind fun t => r.toOption.map t.merge := by
  cases hs : s.firstErr <;> cases r <;> simp [St.res, St.step, St.fail, hs, Option.orElse, Except.toOption]

theorem elabDecl_res (l1 l2 : List String → String → Except Err Tree) (fs1 fs2 : FS)
    (p1 p2 : List String) (s s' : St) (d : PDecl) (hd : isMod d = false) (h : s.res = s'.res) :
    (elabDecl l1 fs1 p1 s d).res = (elabDecl l2 fs2 p2 s' d).res := by
  rw [elabDecl_eq, elabDecl_eq, step_res, step_res, ← h]
  refine Option.bind_congr fun t hs => ?_
  rw [(res_eq_some hs).2, (res_eq_some (h.symm.trans hs)).2, declDelta_file l1 l2 fs1 fs2 p1 p2 t d hd]

theorem foldDecls_res_none (l : List String → String → Except Err Tree) (fs : FS) (p : List String)
    (ds : List PDecl) (s : St) (h : s.res = none) : (foldDecls l fs p s ds).res = none := by
  induction ds generalizing s with
  | nil => exact h
  | cons d ds ih => exact ih (elabDecl l fs p s d) (by rw [elabDecl_eq, step_res, h, Option.bind_none])

theorem foldDecls_append (l : List String → String → Except Err Tree) (fs : FS) (p : List String)
    (s : St) (a b : List PDecl) : foldDecls l fs p s (a ++ b) = foldDecls l fs p (foldDecls l fs p s a) b :=
  List.foldl_append

theorem elabFile_toOption (loader : List String → String → Except Err Tree) (fs : FS)
    (path : List String) (vl : Nat) (ds : List PDecl) :
    (elabFile loader fs path ⟨"3", vl, ds⟩).toOption = (foldDecls loader fs path {} ds).res := by
  simp only [elabFile, beq_self_eq_true, ↓reduceIte, foldDecls, St.res]
  split
  · rename_i e he; simp [Except.toOption, he]
  · rename_i he; simp [Except.toOption, he]

/-- `SplitOf fs n path decls flat`: the declarations `decls` of the file at `path` are the
declarations `flat` with a prefix moved, to import depth at most `n`, into module files of
`fs` (each module file again a split of its part); everything outside the `mod` is `mod`-free -/
inductive SplitOf (fs : FS) : Nat → List String → List PDecl → List PDecl → Prop where
  | flat (n : Nat) (path : List String) (ds : List PDecl) (h : ModFree ds) : SplitOf fs n path ds ds
  | mod (n : Nat) (path mpath : List String) (line vl : Nat) (src : String) (inner flatInner rest : List PDecl)
      (hread : fs.read (modTarget path mpath) = some src)
      (hparse : parseText src = .ok ⟨"3", vl, inner⟩)
      (hin : SplitOf fs n (modTarget path mpath) inner flatInner)
      (hrest : ModFree rest) :
      SplitOf fs (n + 1) path (.mod mpath line :: rest) (flatInner ++ rest)

end Fcp.Frontend
