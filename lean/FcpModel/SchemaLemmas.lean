import FcpModel.Schema
/-!
# How a struct resolves

Inversion of `resolve` at a struct and of `resolveFieldsWith` at a non-empty field list, for the
proofs that follow the resolver field by field (the Python codec, the static size, the rpc layer);
resolution is monotone in the declarations it can look up.
-/
namespace Fcp

theorem resolveFieldsWith_cons {r : STy → Option Ty} {fd : Field} {rest : List Field} {ty : Ty}
    (h : resolveFieldsWith r (fd :: rest) = some ty) :
    ∃ t rt, r fd.ty = some t ∧ resolveFieldsWith r rest = some rt ∧ ty = .field fd.name fd.id t rt := by
  simp only [resolveFieldsWith] at h
  split at h
  · rename_i t rt ht hrt
    exact ⟨t, rt, ht, hrt, (Option.some.inj h).symm⟩
  · cases h

theorem resolve_struct_inv {S : Schema} {f : Nat} {name : String} {ty : Ty}
    (h : resolve S (f + 1) (.struct name) = some ty) :
    ∃ st, S.getStruct name = some st ∧
      resolveFieldsWith (resolve S f) (sortFields st.fields) = some ty := by
  simp only [resolve] at h
  split at h
  · cases h
  · exact ⟨_, ‹_›, h⟩

theorem resolveFieldsWith_mono {r r' : STy → Option Ty} {fs : List Field}
    (h : ∀ f ∈ fs, ∀ t, r f.ty = some t → r' f.ty = some t) :
    ∀ ty, resolveFieldsWith r fs = some ty → resolveFieldsWith r' fs = some ty := by
  induction fs with
  | nil => exact fun _ h => h
  | cons f rest ih =>
    intro ty hty
    obtain ⟨t, rt, ht, hrt, rfl⟩ := resolveFieldsWith_cons hty
    rw [resolveFieldsWith, h f List.mem_cons_self t ht,
      ih (fun g hg => h g (List.mem_cons_of_mem _ hg)) rt hrt]

theorem resolve_mono (S S' : Schema)
    (hs : ∀ n st, S.getStruct n = some st → S'.getStruct n = some st)
    (he : ∀ n e, S.getEnum n = some e → S'.getEnum n = some e) :
    ∀ (fuel : Nat) (t : STy) (ty : Ty), resolve S fuel t = some ty → resolve S' fuel t = some ty := by
  intro fuel
  induction fuel with
  | zero => exact fun _ _ h => nomatch h
  | succ f ih =>
    intro t ty h
    cases t with
    | u | i | f32 | f64 | str => exact h
    | arr e | dyn e | opt e =>
      obtain ⟨a, ha, rfl⟩ := Option.map_eq_some_iff.mp h
      exact Option.map_eq_some_iff.mpr ⟨a, ih e a ha, rfl⟩
    | «enum» name =>
      rw [resolve] at h ⊢
      cases hg : S.getEnum name with
      | none => rw [hg] at h; cases h
      | some e => rw [he name e hg, ← hg]; exact h
    | struct name =>
      obtain ⟨st, hg, hf⟩ := resolve_struct_inv h
      rw [resolve, hs name st hg]
      exact resolveFieldsWith_mono (fun fd _ => ih fd.ty) ty hf

end Fcp
