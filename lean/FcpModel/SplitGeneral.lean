import FcpModel.SplitLemmas
/-!
# Module imports are transparent, in general position

A file may import any number of modules at any positions, between ordinary declarations, each
module again split to any depth.  What makes a block of declarations movable into a module is a
*frame* property: elaborating it after a context gives the context merged with what it gives on
its own — true whenever no type name the block refers to is declared by the context (`Fresh`):
a module sees only its own declarations, so a reference to something declared outside fails
inside the module and the split is not a split of a well-formed file in the first place.
On the observable state a fresh block therefore acts like one step with the block's own result
(`foldDecls_res_fresh`), which is also how a `mod` acts (`elabDecl_mod_res`).
-/
namespace Fcp.Frontend
open Fcp.Syntax

def tyRefs : PTy → List String
  | .named s _ => [s]
  | .arr t _ => tyRefs t
  | .dyn t => tyRefs t
  | .opt t => tyRefs t
  | _ => []

/-- the type names a declaration looks up when it is elaborated -/
def declRefs : PDecl → List String
  | .struct _ fields _ => fields.flatMap fun f => tyRefs f.ty
  | _ => []

/-- the type names a declaration may add to the tree -/
def declName : PDecl → List String
  | .struct n _ _ => [n]
  | .enum n _ _ => [n]
  | _ => []

def declNames (ds : List PDecl) : List String := ds.flatMap declName

def Tree.typeNames (t : Tree) : List String := t.structs.map (·.name) ++ t.enums.map (·.name)

def Fresh (T : Tree) (ds : List PDecl) : Prop := ∀ d ∈ ds, ∀ n ∈ declRefs d, n ∉ T.typeNames

theorem getStruct_merge_fresh (T t : Tree) (n : String) (h : n ∉ T.typeNames) :
    (T.merge t).getStruct n = t.getStruct n := by
  have : T.structs.find? (·.name == n) = none :=
    List.find?_eq_none.mpr fun x hx hn => h (List.mem_append_left _ (List.mem_map.mpr ⟨x, hx, beq_iff_eq.mp hn⟩))
  simp only [Tree.getStruct, Tree.merge, List.find?_append, this, Option.none_or]

theorem getEnum_merge_fresh (T t : Tree) (n : String) (h : n ∉ T.typeNames) :
    (T.merge t).getEnum n = t.getEnum n := by
  have : T.enums.find? (·.name == n) = none :=
    List.find?_eq_none.mpr fun x hx hn => h (List.mem_append_right _ (List.mem_map.mpr ⟨x, hx, beq_iff_eq.mp hn⟩))
  simp only [Tree.getEnum, Tree.merge, List.find?_append, this, Option.none_or]

theorem elabType_frame (T t : Tree) (file : String) (p : PTy) (h : ∀ n ∈ tyRefs p, n ∉ T.typeNames) :
    elabType (T.merge t) file p = elabType t file p := by
  induction p with
  | named s l =>
    have hs := h s List.mem_cons_self
    simp only [elabType, getStruct_merge_fresh T t s hs, getEnum_merge_fresh T t s hs]
  | arr e sz ih => simp only [elabType, ih h]
  | dyn e ih => simp only [elabType, ih h]
  | opt e ih => simp only [elabType, ih h]
  | _ => rfl

/-- only the fields of a `struct` look at the tree at all -/
theorem declDelta_frame (l : List String → String → Except Err Tree) (fs : FS) (p : List String)
    (T t : Tree) (d : PDecl) (h : ∀ n ∈ declRefs d, n ∉ T.typeNames) :
    declDelta l fs p (T.merge t) d = declDelta l fs p t d := by
  cases d with
  | struct name fields line =>
    simp only [declDelta]
    rw [mapM_congr_mem _ (elabField t (p.getLast?.getD "") name) fields fun f hf => ?_]
    unfold elabField
    rw [elabType_frame T t _ f.ty fun n hn => h n (List.mem_flatMap.mpr ⟨f, hf, hn⟩)]
  | _ => rfl

theorem merge_assoc (a b c : Tree) : (a.merge b).merge c = a.merge (b.merge c) := by
  simp only [Tree.merge, List.append_assoc]

theorem merge_assoc_structs (T t : Tree) (x : TStruct) (y : TImpl) :
    ({ T.merge t with structs := (T.merge t).structs ++ [x], impls := (T.merge t).impls ++ [y] } : Tree) =
      T.merge { t with structs := t.structs ++ [x], impls := t.impls ++ [y] } := by
  simp only [Tree.merge, List.append_assoc]

theorem elabDecl_frame (l : List String → String → Except Err Tree) (fs : FS) (p : List String)
    (T t : Tree) (e : Option Err) (d : PDecl) (h : ∀ n ∈ declRefs d, n ∉ T.typeNames) :
    elabDecl l fs p ⟨T.merge t, e⟩ d =
      ⟨T.merge (elabDecl l fs p ⟨t, e⟩ d).tree, (elabDecl l fs p ⟨t, e⟩ d).firstErr⟩ := by
  rw [elabDecl_eq, elabDecl_eq, declDelta_frame l fs p T t d h]
  cases declDelta l fs p t d with
  | error _ => rfl
  | ok δ => simp only [St.step, merge_assoc]

/-- **the frame property** (C20): a block that does not refer to the context's type names
elaborates, after the context, to the context merged with its own result -/
theorem foldDecls_frame (l : List String → String → Except Err Tree) (fs : FS) (p : List String) (T : Tree)
    (ds : List PDecl) (hf : Fresh T ds) (t : Tree) (e : Option Err) :
    foldDecls l fs p ⟨T.merge t, e⟩ ds =
      ⟨T.merge (foldDecls l fs p ⟨t, e⟩ ds).tree, (foldDecls l fs p ⟨t, e⟩ ds).firstErr⟩ := by
  induction ds generalizing t e with
  | nil => rfl
  | cons d ds ih =>
    simp only [foldDecls, List.foldl_cons]
    rw [elabDecl_frame l fs p T t e d (hf d List.mem_cons_self)]
    exact ih (fun x hx => hf x (List.mem_cons_of_mem _ hx)) _ _

/-- on the observable state, a block that does not refer to the type names of the state it
meets acts like one step with the block's own result -/
theorem foldDecls_res_fresh (l : List String → String → Except Err Tree) (fs : FS) (p : List String)
    (s : St) (ds : List PDecl) (hf : Fresh s.tree ds) :
    (foldDecls l fs p s ds).res = s.res.bind fun t => (foldDecls l fs p {} ds).res.map t.merge := by
  obtain ⟨T, e⟩ := s
  cases e with
  | some e => exact foldDecls_res_none l fs p ds _ rfl
  | none =>
    have := foldDecls_frame l fs p T ds hf {} none
    rw [merge_empty] at this
    rw [this]
    simp only [St.res]
    split <;> rfl

/-! ## type names of the tree come from the declarations seen so far -/

theorem typeNames_merge (a b : Tree) (x : String) :
    x ∈ (a.merge b).typeNames ↔ x ∈ a.typeNames ∨ x ∈ b.typeNames := by
  simp only [Tree.typeNames, Tree.merge, List.map_append, List.mem_append]
  constructor <;> rintro ((h | h) | (h | h)) <;> simp only [h, true_or, or_true]

theorem declDelta_names (l : List String → String → Except Err Tree) (fs : FS) (p : List String) (t δ : Tree)
    (d : PDecl) (hd : isMod d = false) (h : declDelta l fs p t d = .ok δ) : ∀ n ∈ δ.typeNames, n ∈ declName d := by
  cases d with
  | mod mp ln => cases hd
  | struct name fields line => obtain ⟨_, _, rfl⟩ := Except.map_eq_ok h; exact fun n hn => hn
  | «enum» name items line =>
    simp only [declDelta] at h
    split at h
    · cases h
    · obtain ⟨_, _, rfl⟩ := Except.map_eq_ok h; exact fun n hn => hn
  | service name id methods line =>
    simp only [declDelta] at h
    split at h
    · cases h
    · obtain ⟨_, _, rfl⟩ := Except.map_eq_ok h; exact fun n hn => hn
  | _ => cases h; exact fun n hn => hn

theorem declNames_append (a b : List PDecl) : declNames (a ++ b) = declNames a ++ declNames b :=
  List.flatMap_append

theorem foldDecls_names (l : List String → String → Except Err Tree) (fs : FS) (p : List String) (ds : List PDecl)
    (hm : ModFree ds) (s : St) (pre : List PDecl) (h : ∀ x ∈ s.tree.typeNames, x ∈ declNames pre) :
    ∀ x ∈ (foldDecls l fs p s ds).tree.typeNames, x ∈ declNames (pre ++ ds) := by
  induction ds generalizing s pre with
  | nil => rw [List.append_nil]; exact h
  | cons d ds ih =>
    rw [List.append_cons]
    refine ih (fun x hx => hm x (List.mem_cons_of_mem _ hx)) (elabDecl l fs p s d) (pre ++ [d]) fun x hx => ?_
    rw [declNames_append]
    rw [elabDecl_eq] at hx
    cases hδ : declDelta l fs p s.tree d with
    | error e => rw [hδ] at hx; exact List.mem_append_left _ (h x hx)
    | ok δ =>
      rw [hδ] at hx
      exact ((typeNames_merge _ _ x).mp hx).elim (fun h' => List.mem_append_left _ (h x h')) fun h' =>
        List.mem_append_right _ (List.mem_flatMap.mpr
          ⟨d, List.mem_singleton_self d, declDelta_names l fs p _ δ d (hm d List.mem_cons_self) hδ x h'⟩)

/-- `Split2 fs n path pre ds flat`: the declarations `ds` of the file at `path`, standing after
the (flat) declarations `pre`, are the declarations `flat` with any number of blocks moved —
at any positions, to import depth at most `n` — into module files of `fs`, each module again
such a split.  A moved block does not refer to a type name declared before it outside the
module (`hfresh`): it is self-contained, as a module has to be. -/
inductive Split2 (fs : FS) : Nat → List String → List PDecl → List PDecl → List PDecl → Prop where
  | nil (n : Nat) (path : List String) (pre : List PDecl) : Split2 fs n path pre [] []
  | decl (n : Nat) (path : List String) (pre : List PDecl) (d : PDecl) (ds flat : List PDecl) (hd : isMod d = false)
      (h : Split2 fs n path (pre ++ [d]) ds flat) : Split2 fs n path pre (d :: ds) (d :: flat)
  | mod (n : Nat) (path : List String) (pre : List PDecl) (mpath : List String) (line vl : Nat) (src : String)
      (inner flatInner ds flat : List PDecl)
      (hread : fs.read (modTarget path mpath) = some src)
      (hparse : parseText src = .ok ⟨"3", vl, inner⟩)
      (hin : Split2 fs n (modTarget path mpath) [] inner flatInner)
      (hfresh : ∀ d ∈ flatInner, ∀ x ∈ declRefs d, x ∉ declNames pre)
      (h : Split2 fs (n + 1) path (pre ++ flatInner) ds flat) :
      Split2 fs (n + 1) path pre (.mod mpath line :: ds) (flatInner ++ flat)

theorem Split2.modFree {fs : FS} {n : Nat} {path : List String} {pre ds flat : List PDecl}
    (h : Split2 fs n path pre ds flat) : ModFree flat := by
  induction h with
  | nil => exact fun d hd => nomatch hd
  | decl n path pre d ds flat hd h ih => exact fun x hx => (List.mem_cons.mp hx).elim (· ▸ hd) (ih x)
  | mod n path pre mpath line vl src inner flatInner ds flat hread hparse hin hfresh h ihin ih =>
    exact fun x hx => (List.mem_append.mp hx).elim (ihin x) (ih x)

/-- a `mod` acts on the observable state like one step with the result of the module's own fold -/
theorem elabDecl_mod_res (fs : FS) (fuel : Nat) (path mpath : List String) (line vl : Nat) (src : String)
    (inner : List PDecl) (s : St)
    (hread : fs.read (modTarget path mpath) = some src) (hparse : parseText src = .ok ⟨"3", vl, inner⟩) :
    (elabDecl (loadFile fs (fuel + 1)) fs path s (.mod mpath line)).res =
      s.res.bind fun t => (foldDecls (loadFile fs fuel) fs (modTarget path mpath) {} inner).res.map t.merge := by
  rw [elabDecl_eq, step_res, ← elabFile_toOption _ _ _ vl]
  simp only [declDelta, hread, loadFile, hparse]
  cases elabFile (loadFile fs fuel) fs (modTarget path mpath) ⟨"3", vl, inner⟩ <;> rfl

/-- **C20 in general position**: folding the declarations of a split file (loading its
modules) from a state, and folding the flat declarations from an observationally equal state,
give the same tree, or both fail -/
theorem split2_fold (fs : FS) : ∀ (n : Nat) (path : List String) (pre ds flat : List PDecl),
    Split2 fs n path pre ds flat →
    ∀ (fuel : Nat), n ≤ fuel →
    ∀ (l2 : List String → String → Except Err Tree) (fs2 : FS) (p2 : List String) (s s' : St),
      s.res = s'.res → (∀ x ∈ s'.tree.typeNames, x ∈ declNames pre) →
      (foldDecls (loadFile fs fuel) fs path s ds).res = (foldDecls l2 fs2 p2 s' flat).res := by
  intro n path pre ds flat h
  induction h with
  | nil n path pre => exact fun _ _ _ _ _ _ _ hv _ => hv
  | decl n path pre d ds flat hd h ih =>
    intro fuel hfuel l2 fs2 p2 s s' hv hnames
    exact ih fuel hfuel l2 fs2 p2 _ _ (elabDecl_res _ l2 _ fs2 _ p2 s s' d hd hv)
      (foldDecls_names l2 fs2 p2 [d] (fun _ h => List.mem_singleton.mp h ▸ hd) s' pre hnames)
  | mod n path pre mpath line vl src inner flatInner ds flat hread hparse hin hfresh h ihin ih =>
    intro fuel hfuel l2 fs2 p2 s s' hv hnames
    obtain ⟨fuel, rfl⟩ : ∃ f, fuel = f + 1 := ⟨fuel - 1, by omega⟩
    rw [foldDecls_append]
    refine ih (fuel + 1) hfuel l2 fs2 p2 _ _ ?_ (foldDecls_names l2 fs2 p2 flatInner hin.modFree s' pre hnames)
    -- both the `mod` and the flat block act as one step, with results equal by `ihin`
    rw [elabDecl_mod_res fs fuel path mpath line vl src inner s hread hparse,
      foldDecls_res_fresh l2 fs2 p2 s' flatInner fun d hd x hx hmem => hfresh d hd x hx (hnames x hmem),
      hv, ihin fuel (by omega) l2 fs2 p2 {} {} rfl fun x hx => nomatch hx]

/-- **C20, general**: a file whose declarations are a split in general position of `flat`
elaborates to the same tree as the single file holding `flat`, and fails exactly when it does -/
theorem split2_equiv (fs : FS) (n : Nat) (path : List String) (vl vl2 : Nat) (ds flat : List PDecl)
    (h : Split2 fs n path [] ds flat) (fuel : Nat) (hf : n ≤ fuel)
    (l2 : List String → String → Except Err Tree) (fs2 : FS) (p2 : List String) :
    (elabFile (loadFile fs fuel) fs path ⟨"3", vl, ds⟩).toOption =
      (elabFile l2 fs2 p2 ⟨"3", vl2, flat⟩).toOption := by
  rw [elabFile_toOption, elabFile_toOption]
  exact split2_fold fs n path [] ds flat h fuel hf l2 fs2 p2 {} {} rfl fun x hx => nomatch hx

/-! ## a module at the top of the file is a split in general position -/

theorem Split2.flat (fs : FS) (n : Nat) (path : List String) :
    ∀ (pre ds : List PDecl), ModFree ds → Split2 fs n path pre ds ds
  | pre, [], _ => .nil n path pre
  | pre, d :: ds, h => .decl n path pre d ds ds (h d List.mem_cons_self)
      (Split2.flat fs n path _ ds fun x hx => h x (List.mem_cons_of_mem _ hx))

/-- nothing is declared before a module at the top, so it needs no freshness -/
theorem SplitOf.split2 {fs : FS} {n : Nat} {path : List String} {ds flat : List PDecl}
    (h : SplitOf fs n path ds flat) : Split2 fs n path [] ds flat := by
  induction h with
  | flat n path ds hm => exact .flat fs n path [] ds hm
  | mod n path mpath line vl src inner flatInner rest hread hparse hin hrest ih =>
    exact .mod n path [] mpath line vl src inner flatInner rest rest hread hparse ih
      (fun _ _ _ _ hx => nomatch hx) (.flat fs (n + 1) path _ rest hrest)

end Fcp.Frontend
