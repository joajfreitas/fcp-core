/-!
# The glue every verdict travels through: `result.py` (`Ok`/`Err`), `maybe.py` (`Some`/`Nothing`, `catch`)

The verifier, the generator manager and the parser pass their verdicts through a Rust-style
`Result` with early exit: `x.attempt()` returns the value of an `Ok` and leaves the enclosing
`@catch` function with the `Err` otherwise.  A payload may be any Python value — falsy ones
included (`Err("")`, `Err(0)`, `Ok(None)`): nothing may depend on its truthiness.

The model is `Except`; programs are straight-line pipelines over one result.  Proved: an `Err`
goes through every `Ok`-side combinator unchanged, an `Ok` through every `Err`-side one
(`run_err_absorbs`, `run_ok_absorbs`), and `attempt` inside `catch` is the identity on results
(`catch_attempt`).  The harness runs the same pipelines on the real classes.
-/
namespace Fcp.Glue

/-- payloads: integers (0 is falsy in Python), with a tag that says how they print -/
abbrev Payload := Int

abbrev Res := Except Payload Payload

inductive Op where
  | map (k : Int)            -- `r.map(lambda v: v + k)`
  | mapErr (k : Int)         -- `r.map_err(lambda e: e * 2 + k)`
  | andThen (m k : Int)      -- `r.and_then(lambda v: Ok(v + k) if v % 3 != m else Err(v))`
  | orElse (m k : Int)       -- `r.or_else(lambda e: Ok(e + k) if e % 3 == m else Err(e - 1))`
  | catchAttempt (k : Int)   -- `catch(lambda: Ok(r.attempt() + k))()`
  deriving Repr

def step (r : Res) : Op → Res
  | .map k => r.map (· + k)
  | .mapErr k => match r with | .ok v => .ok v | .error e => .error (e * 2 + k)
  | .andThen m k => match r with
    | .ok v => if v % 3 != m then .ok (v + k) else .error v
    | .error e => .error e
  | .orElse m k => match r with
    | .ok v => .ok v
    | .error e => if e % 3 == m then .ok (e + k) else .error (e - 1)
  | .catchAttempt k => match r with
    | .ok v => .ok (v + k)
    | .error e => .error e

def run (r : Res) (ops : List Op) : Res := ops.foldl step r

def okSide : Op → Bool
  | .map _ | .andThen _ _ | .catchAttempt _ => true
  | _ => false

theorem step_error (e : Payload) {o : Op} (h : okSide o = true) : step (.error e) o = .error e := by
  cases o with
  | map | andThen | catchAttempt => rfl
  | mapErr | orElse => cases h

theorem step_ok (v : Payload) {o : Op} (h : okSide o = false) : step (.ok v) o = .ok v := by
  cases o with
  | mapErr | orElse => rfl
  | map | andThen | catchAttempt => cases h

theorem run_fixed {r : Res} {ops : List Op} (h : ∀ o ∈ ops, step r o = r) : run r ops = r :=
  List.foldlRecOn ops step (motive := (· = r)) rfl fun _ hb o ho => (congrArg (step · o) hb).trans (h o ho)

/-- an error goes through every `Ok`-side combinator unchanged, whatever its payload -/
theorem run_err_absorbs (e : Payload) (ops : List Op) (h : ∀ o ∈ ops, okSide o = true) :
    run (.error e) ops = .error e :=
  run_fixed fun o ho => step_error e (h o ho)

/-- a success goes through every `Err`-side combinator unchanged -/
theorem run_ok_absorbs (v : Payload) (ops : List Op) (h : ∀ o ∈ ops, okSide o = false) :
    run (.ok v) ops = .ok v :=
  run_fixed fun o ho => step_ok v (h o ho)

/-- `attempt` inside `catch`, followed by re-wrapping the value, is the identity -/
theorem catch_attempt (r : Res) : step r (.catchAttempt 0) = r := by
  cases r
  · rfl
  · exact congrArg Except.ok (Int.add_zero _)

end Fcp.Glue
