import FcpModel.Lists
/-!
# Sched: model of `can_send_<dev>_msgs_scheduled` (can_device_c.jinja)

```c
static uint32_t last_call_t = 0;
static uint32_t last_send_t[N] = {0};
if (last_call_t == time) return;
last_call_t = time;
// for each message i, in order:
if (PERIOD_i != -1 && (time - last_send_t[i] >= PERIOD_i)) { send(encode(dev->msg_i)); last_send_t[i] = time; }
```
Timestamps are `uint32_t` (naturals below `2^32`), the subtraction wraps, and the
comparison with the `int` literal `PERIOD_i` is unsigned.
-/
namespace Fcp.Sched

def W : Nat := 2 ^ 32

/-- `(uint32_t) PERIOD` -/
def periodU (p : Int) : Nat := (p % (W : Int)).toNat

/-- `PERIOD != -1 && (time - last >= PERIOD)` in `uint32_t` arithmetic -/
def due (p : Int) (t last : Nat) : Bool :=
  p != -1 && decide (periodU p ≤ (t + W - last) % W)

/-- one message's slot of the loop body: new `last_send_t[i]` and whether it was sent -/
def stepMsg (p : Int) (last t : Nat) : Nat × Bool :=
  if due p t last then (t, true) else (last, false)

structure State where
  lastCall : Nat := 0
  lastSend : List Nat
  deriving Repr

def init (periods : List Int) : State := { lastCall := 0, lastSend := periods.map fun _ => 0 }

/-- the loop over the messages: new `last_send_t` array and the sent flags -/
def stepAll (t : Nat) : List Int → List Nat → List Nat × List Bool
  | p :: ps, l :: ls =>
    ((stepMsg p l t).1 :: (stepAll t ps ls).1, (stepMsg p l t).2 :: (stepAll t ps ls).2)
  | _, _ => ([], [])

/-- one call of the scheduler: new state and, per message, whether a frame was sent -/
def step (periods : List Int) (s : State) (t : Nat) : State × List Bool :=
  if s.lastCall == t then (s, periods.map fun _ => false)
  else ({ lastCall := t, lastSend := (stepAll t periods s.lastSend).1 }, (stepAll t periods s.lastSend).2)

/-- the trace of a call history -/
def run (periods : List Int) : State → List Nat → List (List Bool)
  | _, [] => []
  | s, t :: ts => let (s', out) := step periods s t; out :: run periods s' ts

/-! ## reference automaton, one message at a time -/

/-- message with period `p`: sent on a call exactly when the timestamp differs from the
previous call's and at least `p` has elapsed (mod 2^32) since its previous transmission -/
def spec (p : Int) : Nat → Nat → List Nat → List Bool
  | _, _, [] => []
  | prevT, lastTx, t :: ts =>
    let sent := t != prevT && due p t lastTx
    sent :: spec p t (if sent then t else lastTx) ts

/-- the loop is a `zipWith` of the per-message slot over periods and last-send times -/
theorem stepAll_eq (t : Nat) (ps : List Int) (ls : List Nat) :
    stepAll t ps ls = (List.zipWith (fun p l => (stepMsg p l t).1) ps ls,
      List.zipWith (fun p l => (stepMsg p l t).2) ps ls) := by
  induction ps generalizing ls with
  | nil => rfl
  | cons p ps ih => cases ls with
    | nil => rfl
    | cons l ls => simp only [stepAll, ih, List.zipWith_cons_cons]

/-- **refinement**: for every call history, the implementation's trace projected on message
`i` is the reference automaton's trace for that message — messages do not interfere -/
theorem run_refines_spec (periods : List Int) (i : Nat) (hi : i < periods.length) :
    ∀ (ts : List Nat) (s : State), s.lastSend.length = periods.length →
      (run periods s ts).map (fun row => row.getD i false) =
        spec (periods.getD i 0) s.lastCall (s.lastSend.getD i 0) ts := by
  intro ts
  induction ts with
  | nil => intro s _; rfl
  | cons t ts ih =>
    intro s hl
    simp only [run, step, spec]
    by_cases hc : s.lastCall = t
    · -- same timestamp as the previous call: nothing is sent, nothing changes
      subst hc
      simp only [beq_self_eq_true, ↓reduceIte, List.map_cons, bne_self_eq_false, Bool.false_and,
        Bool.false_eq_true]
      rw [ih s hl, List.getD_eq_getElem?_getD, List.getElem?_map, List.getElem?_eq_getElem hi]
      rfl
    · have hne : (s.lastCall == t) = false := by simpa using hc
      have hne' : (t != s.lastCall) = true := by simpa using fun h => hc h.symm
      simp only [hne, Bool.false_eq_true, ↓reduceIte, List.map_cons, hne', Bool.true_and, stepAll_eq]
      rw [ih _ (by simp only [List.length_zipWith, hl, Nat.min_self]),
        getD_zipWith _ _ _ i hi (hl ▸ hi) false 0 0, getD_zipWith _ _ _ i hi (hl ▸ hi) 0 0 0]
      simp only [stepMsg]
      cases due (periods.getD i 0) t (s.lastSend.getD i 0) <;> rfl

/-! ## consequences, on the reference automaton -/

theorem spec_no_period (prevT lastTx : Nat) (ts : List Nat) :
    ∀ b ∈ spec (-1) prevT lastTx ts, b = false := by
  induction ts generalizing prevT lastTx with
  | nil => intro b hb; cases hb
  | cons t ts ih =>
    intro b hb
    simp only [spec, due, bne_self_eq_false, Bool.false_and, Bool.and_false, Bool.false_eq_true,
      ↓reduceIte, List.mem_cons] at hb
    rcases hb with rfl | hb
    · rfl
    · exact ih _ _ b hb

/-- the times at which the message was transmitted, given the trace -/
def txTimes : List Nat → List Bool → List Nat
  | t :: ts, b :: bs => if b then t :: txTimes ts bs else txTimes ts bs
  | _, _ => []

/-- consecutive elements of a list are related by `R` -/
def Chain (R : Nat → Nat → Prop) : Nat → List Nat → Prop
  | _, [] => True
  | a, b :: l => R a b ∧ Chain R b l

/-- **never twice within less than P**: every transmission is at least `P` (mod 2^32,
unsigned) after the previous one, and the first at least `P` after time 0 -/
theorem spec_spacing (p : Int) (prevT lastTx : Nat) (ts : List Nat) :
    Chain (fun a b => periodU p ≤ (b + W - a) % W) lastTx (txTimes ts (spec p prevT lastTx ts)) := by
  induction ts generalizing prevT lastTx with
  | nil => simp [txTimes, Chain]
  | cons t ts ih =>
    simp only [spec, txTimes]
    by_cases hs : (t != prevT && due p t lastTx) = true
    · simp only [hs, ↓reduceIte, Chain]
      refine ⟨?_, ih t t⟩
      simp only [Bool.and_eq_true, due, decide_eq_true_eq] at hs
      exact hs.2.2
    · have : (t != prevT && due p t lastTx) = false := by simpa using hs
      simp only [this, Bool.false_eq_true, ↓reduceIte]
      exact ih t lastTx

/-- with true (unwrapped) times: if the real elapsed time between two instants is below the
modulus, the wrapped difference the scheduler computes *is* the elapsed time (any word size) -/
theorem wrapped_diff (W T1 T2 : Nat) (h : T1 ≤ T2) (hlt : T2 - T1 < W) :
    ((T2 % W) + W - (T1 % W)) % W = T2 - T1 := by
  have h1 := Nat.mod_lt T1 (Nat.zero_lt_of_lt hlt)
  obtain ⟨d, rfl⟩ := Nat.exists_eq_add_of_le h
  rw [Nat.add_sub_cancel_left] at hlt ⊢
  -- `T1 % W` cancels: what remains is `d` plus a multiple of `W`
  have e : T1 + (W - T1 % W) + d = W * (T1 / W + 1) + d := by
    have := Nat.div_add_mod T1 W
    rw [Nat.mul_add, Nat.mul_one]; omega
  rw [Nat.add_sub_assoc (Nat.le_of_lt h1), Nat.mod_add_mod, Nat.add_right_comm, e,
    Nat.mul_add_mod, Nat.mod_eq_of_lt hlt]

end Fcp.Sched
