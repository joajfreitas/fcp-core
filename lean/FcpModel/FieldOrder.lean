import FcpModel.Wire
import FcpModel.Layout
import FcpModel.Lists
/-!
# Field ids, not declaration order, fix the order (C15) — and the layout agrees with the
wire format on sizes (C04/C14)
-/
namespace Fcp

theorem insertField_perm (f : Field) (l : List Field) : (insertField f l).Perm (f :: l) := by
  induction l with
  | nil => exact List.Perm.refl _
  | cons g gs ih =>
    simp only [insertField]
    split
    · exact List.Perm.refl _
    · exact ((List.Perm.cons g ih).trans (List.Perm.swap f g gs))

theorem sortFields_perm (fs : List Field) : (sortFields fs).Perm fs := by
  induction fs with
  | nil => exact List.Perm.refl _
  | cons f fs ih => exact (insertField_perm f _).trans (List.Perm.cons f ih)

theorem insertField_sorted (f : Field) (l : List Field) (h : l.Pairwise (fun a b => a.id ≤ b.id)) :
    (insertField f l).Pairwise (fun a b => a.id ≤ b.id) := by
  induction l with
  | nil => exact List.pairwise_singleton _ _
  | cons g gs ih =>
    simp only [insertField]
    split
    · rename_i hle
      exact List.pairwise_cons.mpr ⟨List.forall_mem_cons.mpr
        ⟨hle, fun b hb => Int.le_trans hle (List.rel_of_pairwise_cons h hb)⟩, h⟩
    · rename_i hnle
      refine List.pairwise_cons.mpr ⟨fun b hb => ?_, ih h.tail⟩
      rcases List.mem_cons.mp ((insertField_perm f gs).mem_iff.mp hb) with rfl | hb
      · exact Int.le_of_lt (Int.not_le.mp hnle)
      · exact List.rel_of_pairwise_cons h hb

theorem sortFields_sorted (fs : List Field) : (sortFields fs).Pairwise (fun a b => a.id ≤ b.id) := by
  induction fs with
  | nil => exact List.Pairwise.nil
  | cons f fs ih => exact insertField_sorted f _ ih

/-- with distinct field ids, the sorted field list does not depend on declaration order -/
theorem sortFields_eq_of_perm (fs fs' : List Field) (p : fs.Perm fs')
    (hn : (fs.map (·.id)).Nodup) : sortFields fs = sortFields fs' := by
  apply List.Perm.eq_of_pairwise (le := fun a b => a.id ≤ b.id) _ (sortFields_sorted fs)
    (sortFields_sorted fs')
  · exact (sortFields_perm fs).trans (p.trans (sortFields_perm fs').symm)
  · intro a b ha hb hab hba
    have hid : a.id = b.id := Int.le_antisymm hab hba
    have ha' : a ∈ fs := (sortFields_perm fs).mem_iff.mp ha
    have hb' : b ∈ fs := p.mem_iff.mpr ((sortFields_perm fs').mem_iff.mp hb)
    exact eq_of_nodup_map (·.id) fs hn ha' hb' hid

/-- the sorted field list a struct name stands for -/
def Schema.sortedFields (S : Schema) (n : String) : Option (List Field) :=
  (S.getStruct n).map fun st => sortFields st.fields

/-- `S'` is `S` with the fields of each struct written in another order (ids kept) -/
def Twin (S S' : Schema) : Prop :=
  (∀ n, S.sortedFields n = S'.sortedFields n) ∧ (∀ n, S.getEnum n = S'.getEnum n)

/-! `resolve`, `genSignal` and `generate` see a struct only through its sorted field list -/

theorem resolve_struct (S : Schema) (f : Nat) (n : String) :
    resolve S (f + 1) (.struct n) = (S.sortedFields n).bind (resolveFieldsWith (resolve S f)) := by
  simp only [resolve, Schema.sortedFields]
  cases S.getStruct n <;> rfl

theorem genSignal_struct (S : Schema) (unroll : Bool) (impl : Impl) (f : Nat) (pre name look sn : String)
    (unit : Option String) (cur : Nat) :
    genSignal S unroll impl (f + 1) pre name look (.struct sn) unit cur =
      (S.sortedFields sn).bind fun fs => genFieldsWith
        (fun nm lk t u c => genSignal S unroll impl f (pre ++ name ++ "::") nm lk t u c) fs cur := by
  simp only [genSignal, Schema.sortedFields]
  cases S.getStruct sn <;> rfl

theorem generate_eq (S : Schema) (unroll : Bool) (fuel : Nat) (impl : Impl) :
    generate S unroll fuel impl = (S.sortedFields impl.type).bind fun fs =>
      genFieldsWith (fun nm lk t u c => genSignal S unroll impl fuel "" nm lk t u c) fs 0 := by
  simp only [generate, Schema.sortedFields]
  cases S.getStruct impl.type <;> rfl

theorem resolve_twin (S S' : Schema) (h : Twin S S') : ∀ f, resolve S f = resolve S' f := by
  intro f
  induction f with
  | zero => rfl
  | succ f ih =>
    funext t
    cases t with
    | struct n => rw [resolve_struct, resolve_struct, h.1, ih]
    | enum n => simp only [resolve, h.2]
    | _ => simp only [resolve, ih]

theorem typeLength_twin (S S' : Schema) (h : Twin S S') (t : STy) :
    typeLength S t = typeLength S' t := by
  induction t with
  | arr t n ih => simp only [typeLength, ih]
  | enum n => simp only [typeLength, h.2]
  | _ => rfl

theorem genSignal_twin (S S' : Schema) (unroll : Bool) (impl : Impl) (h : Twin S S') :
    ∀ f, genSignal S unroll impl f = genSignal S' unroll impl f := by
  intro f
  induction f with
  | zero => rfl
  | succ f ih =>
    funext pre name look ty unit cur
    cases ty with
    | struct n => rw [genSignal_struct, genSignal_struct, h.1, ih]
    | _ => simp only [genSignal, mkLeaf, typeLength_twin S S' h, ih]

theorem generate_twin (S S' : Schema) (unroll : Bool) (fuel : Nat) (impl : Impl) (h : Twin S S') :
    generate S unroll fuel impl = generate S' unroll fuel impl := by
  rw [generate_eq, generate_eq, h.1, genSignal_twin S S' unroll impl h]

/-- static wire size of a closed type, `none` for variable-size types -/
def staticBits : Ty → Option Nat
  | .uint n => some n
  | .sint n => some n
  | .f32 => some 32
  | .f64 => some 64
  | .enum b => some b
  | .arr t n => if n = 0 then some 0 else (staticBits t).map (n * ·)
  | .unit => some 0
  | .field _ _ t r => match staticBits t, staticBits r with
    | some a, some b => some (a + b)
    | _, _ => none
  | _ => none

theorem Word.staticBits_eq {t n s} (h : Word t n s) : staticBits t = some n := by cases h <;> rfl

theorem staticBits_arr {t : Ty} {a : Nat} (h : staticBits t = some a) (k : Nat) :
    staticBits (.arr t k) = some (k * a) := by
  simp only [staticBits, h, Option.map_some]
  split
  · subst k; rw [Nat.zero_mul]
  · rfl

/-- every in-range value of a fixed-size type encodes to exactly `staticBits` bits -/
theorem enc_length_static (t : Ty) : ∀ (n : Nat) (v : Val), staticBits t = some n →
    wf t v = true → (enc t v).length = n := by
  intro n v h hv
  refine wf_induct (P := fun t v => ∀ n, staticBits t = some n → (enc t v).length = n)
    ?word ?str ?nil ?cons ?dyn ?none ?some ?unit ?field t v hv n h
  case word =>
    intro t n s i hw _ m h
    cases hw.staticBits_eq.symm.trans h
    rw [hw.enc_eq, natBits_length]
  case str => intro _ _ _ n h; cases h
  case dyn => intro _ _ _ _ _ n h; cases h
  case none => intro _ n h; cases h
  case some => intro _ _ _ _ n h; cases h
  case nil => intro t n h; cases h; rfl
  case cons =>
    intro t k x xs _ _ ihx ihxs n h
    simp only [staticBits, Nat.succ_ne_zero, if_false, Option.map_eq_some_iff] at h
    obtain ⟨a, ha, rfl⟩ := h
    have hxs := ihxs (k * a) (staticBits_arr ha k)
    rw [enc] at hxs ⊢
    rw [encList, List.length_append, ihx a ha, hxs, Nat.succ_mul, Nat.add_comm]
  case unit => intro n h; cases h; rfl
  case field =>
    intro nm id t r v vs _ _ ih1 ih2 n h
    simp only [staticBits] at h
    split at h
    · rename_i a b ha hb
      cases h
      rw [enc, List.length_append, ih1 a ha, ih2 b hb]
    · cases h

theorem typeLength_static (S : Schema) : ∀ (t : STy) (m f : Nat) (ty : Ty),
    typeLength S t = some m → resolve S f t = some ty → staticBits ty = some m := by
  intro t m f
  induction f generalizing t m with
  | zero => intro ty _ hr; cases hr
  | succ f ih =>
    intro ty hl hr
    cases t with
    | u n | i n | f32 | f64 => cases hl; cases hr; rfl
    | enum n =>
      simp only [typeLength] at hl
      simp only [resolve, hl, Option.map_some, Option.some.injEq] at hr
      subst hr; rfl
    | arr t n =>
      simp only [resolve, Option.map_eq_some_iff] at hr
      obtain ⟨ty', hty', rfl⟩ := hr
      simp only [typeLength, Option.map_eq_some_iff] at hl
      obtain ⟨k, hk, rfl⟩ := hl
      exact staticBits_arr (ih t k ty' hk hty') n
    | str | struct n | dyn t | opt t => cases hl

/-! A call of `_generate_signal` advances the cursor by the static wire size of the resolved type
of the field.  `genSignal` and `resolve` recurse alike, so this is one induction over both. -/

theorem genFieldsWith_static (g : String → String → STy → Option String → Gen) (r : STy → Option Ty)
    (hg : ∀ nm lk t u c ls e ty, g nm lk t u c = some (ls, e) → r t = some ty →
      ∃ n, staticBits ty = some n ∧ e = c + n)
    (fs : List Field) (c : Nat) (ls : List Leaf) (e : Nat) (ty : Ty)
    (h : genFieldsWith g fs c = some (ls, e)) (hr : resolveFieldsWith r fs = some ty) :
    ∃ n, staticBits ty = some n ∧ e = c + n := by
  induction fs generalizing c ls ty with
  | nil => cases h; cases hr; exact ⟨0, rfl, rfl⟩
  | cons fd rest ih =>
    obtain ⟨l1, m, l2, h1, h2, rfl⟩ := genFieldsWith_cons_some h
    obtain ⟨t, rt, ht, hrt, rfl⟩ := resolveFieldsWith_cons hr
    obtain ⟨a, ha, rfl⟩ := hg _ _ _ _ _ _ _ _ h1 ht
    obtain ⟨b, hb, rfl⟩ := ih _ _ _ h2 hrt
    exact ⟨a + b, by simp only [staticBits, ha, hb], Nat.add_assoc c a b⟩

theorem genArrWith_static (g : String → Gen) (ty : Ty)
    (hg : ∀ nm c ls e, g nm c = some (ls, e) → ∃ n, staticBits ty = some n ∧ e = c + n)
    (name : String) (k i c : Nat) (ls : List Leaf) (e : Nat)
    (h : genArrWith g name k i c = some (ls, e)) :
    ∃ n, staticBits (.arr ty k) = some n ∧ e = c + n := by
  induction k generalizing i c ls with
  | zero => cases h; exact ⟨0, rfl, rfl⟩
  | succ k ih =>
    obtain ⟨l1, m, l2, h1, h2, rfl⟩ := genArrWith_succ_some h
    obtain ⟨a, ha, rfl⟩ := hg _ _ _ _ h1
    obtain ⟨n, hn, rfl⟩ := ih _ _ _ h2
    cases (staticBits_arr ha k).symm.trans hn
    exact ⟨_, staticBits_arr ha (k + 1), by rw [Nat.succ_mul, Nat.add_comm (k * a), Nat.add_assoc]⟩

/-- **layout = wire size**: the bits a field occupies in the packed layout are exactly the
static wire size of its resolved type -/
theorem genSignal_static (S : Schema) (unroll : Bool) (impl : Impl) :
    ∀ (f : Nat) (pre name look : String) (sty : STy) (unit : Option String) (c : Nat)
      (ls : List Leaf) (e : Nat) (ty : Ty),
      genSignal S unroll impl f pre name look sty unit c = some (ls, e) →
      resolve S f sty = some ty → ∃ n, staticBits ty = some n ∧ e = c + n := by
  intro f
  induction f with
  | zero => intro pre name look sty unit c ls e ty h; cases h
  | succ f ih =>
    intro pre name look sty unit c ls e ty h hr
    have leaf : mkLeaf S impl pre name look sty unit c = some (ls, e) →
        ∃ n, staticBits ty = some n ∧ e = c + n := fun h => by
      obtain ⟨l, _, _, rfl, rfl, ok⟩ := mkLeaf_some h
      exact ⟨l.len, typeLength_static S _ _ _ ty ok.width hr, rfl⟩
    cases sty with
    | struct sn =>
      obtain ⟨st, hst, hr⟩ := resolve_struct_inv hr
      simp only [genSignal, hst] at h
      exact genFieldsWith_static _ (resolve S f) (fun _ _ _ _ _ _ _ _ => ih _ _ _ _ _ _ _ _ _) _ _ _ _ _ h hr
    | arr t n =>
      simp only [genSignal] at h
      split at h
      · simp only [resolve, Option.map_eq_some_iff] at hr
        obtain ⟨ty', hty', rfl⟩ := hr
        exact genArrWith_static _ ty' (fun _ _ _ _ h => ih _ _ _ _ _ _ _ _ _ h hty') _ _ _ _ _ _ h
      · exact leaf h
    | _ => simp only [genSignal] at h; exact leaf h

/-- the total size of a binding's layout is the static wire size of the bound struct -/
theorem generate_static (S : Schema) (unroll : Bool) (fuel : Nat) (impl : Impl)
    (ls : List Leaf) (e : Nat) (ty : Ty) (h : generate S unroll fuel impl = some (ls, e))
    (hr : resolve S (fuel + 1) (.struct impl.type) = some ty) : staticBits ty = some e := by
  obtain ⟨st, hst, hr⟩ := resolve_struct_inv hr
  simp only [generate, hst] at h
  obtain ⟨n, hn, rfl⟩ := genFieldsWith_static _ (resolve S fuel)
    (fun _ _ _ _ _ _ _ _ => genSignal_static S unroll impl fuel _ _ _ _ _ _ _ _ _) _ _ _ _ _ h hr
  rw [hn, Nat.zero_add]

end Fcp
