import FcpModel.Dbc
/-!
# CanC: model of the generated C CAN code (can_device_c.jinja + can_signal_parser.c)

The runtime works on a `uint64_t` word: every signal is masked to its length, shifted to its
start bit and OR-ed into the word, which is stored little-endian into the 8 data bytes.
Decoding shifts back, masks, and sign-extends signed signals.  Scale is 1, offset 0 and the
byte order little-endian on the advertised subset.
-/
namespace Fcp.CanC

def W64 : Nat := 2 ^ 64

/-- `set_bitfield(data, start, length)`: `((uint64_t) data & bitmask(length)) << start` in
64-bit arithmetic; `data` is the C value converted to `uint64_t` (two's complement) -/
def setBitfield (v : Int) (start len : Nat) : Nat :=
  (((toTwos 64 v) % 2 ^ len) <<< start) % W64

/-- `get_bitfield(word, start, length)` -/
def getBitfield (word start len : Nat) : Nat := (word >>> start) % 2 ^ len

/-- `bitfield_sign_conv` -/
def signConv (bits len : Nat) : Int := ofTwos len bits

/-- `can_encode_msg_<m>`: OR of the encoded signals -/
def encodeWord : List Leaf → List Int → Nat
  | l :: ls, v :: vs => setBitfield v l.start l.len ||| encodeWord ls vs
  | _, _ => 0

/-- the 8 data bytes: `*(uint64_t *) data = word` on a little-endian machine -/
def wordBytes (w : Nat) : List Nat := (List.range 8).map fun k => (w >>> (8 * k)) % 256

structure Frame where
  id : Int
  dlc : Nat
  data : List Nat
  deriving Repr, DecidableEq

def encodeMsg (id : Int) (ls : List Leaf) (total : Nat) (vs : List Int) : Frame :=
  { id := id, dlc := (total + 7) / 8, data := wordBytes (encodeWord ls vs) }

/-- `can_decode_msg_<m>`: one value per signal -/
def decodeWord (word : Nat) (ls : List Leaf) : List Int :=
  ls.map fun l =>
    let b := getBitfield word l.start l.len
    if l.ty.isSigned then signConv b l.len else (b : Int)

/-! ## the OR of tiled fields is the concatenation of their bits -/

/-- a field that fits the word is its two's-complement word moved to its start bit -/
theorem setBitfield_eq (v : Int) (start len : Nat) (h : start + len ≤ 64) :
    setBitfield v start len = toTwos len v * 2 ^ start := by
  unfold setBitfield
  rw [toTwos_mod_two_pow (show len ≤ 64 by omega) v, Nat.shiftLeft_eq]
  refine Nat.mod_eq_of_lt (Nat.lt_of_lt_of_le
    (Nat.mul_lt_mul_of_pos_right (toTwos_lt len v) (Nat.pow_pos (by omega))) ?_)
  rw [← Nat.pow_add, Nat.add_comm]
  exact Nat.pow_le_pow_right (by omega) h

/-- the word being built while the cursor is at `c`: the bits written so far, below `2^c` -/
theorem encodeWord_eq (ls : List Leaf) (vs : List Int) (c e : Nat) (ht : Tiles c ls e)
    (hv : vs.length = ls.length) (he : e ≤ 64) :
    encodeWord ls vs = 2 ^ c * bitsNat (packLeaves ls vs) := by
  induction ls generalizing c vs with
  | nil => cases vs <;> exact (Nat.mul_zero _).symm
  | cons l ls ih =>
    cases vs with
    | nil => cases hv
    | cons v vs =>
      have hr := ht.2.total
      simp only [encodeWord, packLeaves, ih vs (c + l.len) ht.2 (Nat.succ.inj hv)]
      rw [bitsNat_append, natBits_length, bitsNat_natBits _ _ (toTwos_lt _ _), ht.1,
        setBitfield_eq v c l.len (by omega)]
      -- low part below 2^(c+len), high part a multiple of 2^(c+len): OR is +
      have hlt : toTwos l.len v * 2 ^ c < 2 ^ (c + l.len) := by
        rw [Nat.pow_add, Nat.mul_comm]
        exact Nat.mul_lt_mul_of_pos_left (toTwos_lt l.len v) (Nat.pow_pos (by omega))
      rw [Nat.mul_comm (2 ^ (c + l.len)), ← Nat.shiftLeft_eq (bitsNat _) (c + l.len), Nat.or_comm,
        ← Nat.shiftLeft_add_eq_or_of_lt hlt, Nat.shiftLeft_eq, Nat.pow_add, Nat.mul_add,
        Nat.mul_comm (toTwos l.len v), Nat.add_comm, Nat.mul_comm (bitsNat _), Nat.mul_assoc]

theorem encodeWord_is_packing (ls : List Leaf) (vs : List Int) (e : Nat) (ht : Tiles 0 ls e)
    (hv : vs.length = ls.length) (he : e ≤ 64) :
    encodeWord ls vs = bitsNat (packLeaves ls vs) := by
  rw [encodeWord_eq ls vs 0 e ht hv he, Nat.pow_zero, Nat.one_mul]

theorem getBitfield_encode (ls : List Leaf) (vs : List Int) (e : Nat) (ht : Tiles 0 ls e)
    (hv : vs.length = ls.length) (he : e ≤ 64) (k : Nat) (hk : k < ls.length) :
    getBitfield (encodeWord ls vs) ls[k].start ls[k].len = toTwos ls[k].len (vs[k]'(by omega)) := by
  unfold getBitfield
  rw [encodeWord_is_packing ls vs e ht hv he, bitsNat_shiftRight, bitsNat_mod]
  exact extract_pack ls vs e ht hv k hk

/-- in-range for a leaf: unsigned leaves hold `0 ≤ v < 2^len`, signed ones `-2^(len-1) ≤ v < 2^(len-1)` -/
def leafInRange (l : Leaf) (v : Int) : Prop :=
  if l.ty.isSigned then 0 < l.len ∧ inRangeS l.len v else 0 ≤ v ∧ v < 2 ^ l.len

/-- **decode ∘ encode = id** on the generated C code's word -/
theorem decode_encode (ls : List Leaf) (vs : List Int) (e : Nat) (ht : Tiles 0 ls e)
    (hv : vs.length = ls.length) (he : e ≤ 64)
    (hr : ∀ k (hk : k < ls.length), leafInRange ls[k] (vs[k]'(by omega))) :
    decodeWord (encodeWord ls vs) ls = vs := by
  unfold decodeWord
  refine List.ext_getElem (by rw [List.length_map, hv]) fun k h1 h2 => ?_
  have hk : k < ls.length := by rwa [List.length_map] at h1
  rw [List.getElem_map, getBitfield_encode ls vs e ht hv he k hk]
  have hrk := hr k hk
  unfold leafInRange at hrk
  split <;> rename_i hs
  · rw [if_pos hs] at hrk
    exact ofTwos_toTwos _ hrk.1 _ hrk.2
  · rw [if_neg hs] at hrk
    rw [toTwos_of_inRange _ _ hrk.1 hrk.2]
    exact Int.toNat_of_nonneg hrk.1

theorem frame_byte (ls : List Leaf) (vs : List Int) (e : Nat) (ht : Tiles 0 ls e)
    (hv : vs.length = ls.length) (he : e ≤ 64) (k : Nat) (hk : k < 8) :
    (wordBytes (encodeWord ls vs))[k]'(by simp [wordBytes, hk]) =
      bitsNat (((packLeaves ls vs).drop (8 * k)).take 8) := by
  simp only [wordBytes, List.getElem_map, List.getElem_range]
  rw [encodeWord_is_packing ls vs e ht hv he, bitsNat_shiftRight]
  exact bitsNat_mod _ 8

end Fcp.CanC
