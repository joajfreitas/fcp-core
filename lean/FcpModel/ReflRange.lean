import FcpModel.Reflection
import FcpModel.Wire
/-!
# Which schemas have a reflection record that fits reflection.fcp

`C12_lossless` takes `wf reflTy (reflect S)` as its hypothesis: a statement about the *record*.
Here the same class is described on the *schema*: `InReflRange S` lists, declaration by
declaration, the bounds that the fixed-width fields of reflection.fcp impose (ids in `u32`,
enumerators and source positions in `i32`, version in `u16`, texts valid UTF-8 and shorter than
2^32, lists shorter than 2^32), and `wf_reflect` proves that the two coincide.  The recorded
findings `negative-field-id` and `enumerator-beyond-i32` are exactly two ways of leaving it.
-/
namespace Fcp.Refl
open Fcp
set_option linter.unusedSimpArgs false

def okStr (s : Str) : Bool := s.length < 2^32 && utf8Valid s
def okI32 (i : Int) : Bool := -(2^31 : Int) ≤ i && i < 2^31
def okU32 (i : Int) : Bool := 0 ≤ i && i < 2^32

def okMeta (m : RMeta) : Bool :=
  okI32 m.line && okI32 m.endLine && okI32 m.column && okI32 m.endColumn && okI32 m.startPos &&
  okI32 m.endPos && okStr m.filename

def okOptMeta : Option RMeta → Bool
  | none => true
  | some m => okMeta m

/-- every entry of the type chain: a text name, a size in `u32` -/
def okChain : RTy → Bool
  | .u n => okStr (117 :: natCodes n)
  | .i n => okStr (105 :: natCodes n)
  | .f32 | .f64 | .str => true
  | .enum n => okStr n
  | .struct n => okStr n
  | .arr t n => n < 2^32 && okChain t
  | .dyn t => okChain t
  | .opt t => okChain t

def okTy (t : RTy) : Bool := (chain t).length < 2^32 && okChain t

def okOptStr : Option Str → Bool
  | none => true
  | some s => okStr s

def okOptWord : Option Nat → Bool
  | none => true
  | some w => w < 2^64

def okField (f : RField) : Bool :=
  okStr f.name && okU32 f.id && okTy f.ty && okOptStr f.unit && okOptWord f.min && okOptWord f.max &&
  okOptMeta f.pos

def okStruct (s : RStruct) : Bool :=
  okStr s.name && (s.fields.length < 2^32 && s.fields.all okField) && okOptMeta s.pos

def okEnumerator (x : REnumerator) : Bool := okStr x.name && okI32 x.value && okOptMeta x.pos

def okEnum (e : REnum) : Bool :=
  okStr e.name && (e.items.length < 2^32 && e.items.all okEnumerator) && okOptMeta e.pos

/-- extension fields travel as text: the key and Python's `str(value)` -/
def okDict (kvs : List (Str × XV)) : Bool :=
  kvs.length < 2^32 && kvs.all fun kv => okStr kv.1 && okStr (pyStr kv.2)

def okSignal (s : RSignal) : Bool := okStr s.name && okDict s.fields && okOptMeta s.pos

def okImpl (i : RImpl) : Bool :=
  okStr i.name && okStr i.protocol && okStr i.type && okDict i.fields &&
  (i.signals.length < 2^32 && i.signals.all okSignal) && okOptMeta i.pos

def okMethod (m : RMethod) : Bool :=
  okStr m.name && okU32 m.id && okStr m.input && okStr m.output && okOptMeta m.pos

def okService (s : RService) : Bool :=
  okStr s.name && okU32 s.id && (s.methods.length < 2^32 && s.methods.all okMethod) && okOptMeta s.pos

/-- the schemas whose reflection record fits reflection.fcp -/
def InReflRange (S : RSchema) : Bool :=
  (0 ≤ S.version && S.version < 2^16) &&
  (S.structs.length < 2^32 && S.structs.all okStruct) &&
  (S.enums.length < 2^32 && S.enums.all okEnum) &&
  (S.impls.length < 2^32 && S.impls.all okImpl) &&
  (S.services.length < 2^32 && S.services.all okService)

@[simp] theorem vlen_mkList (vs : List Val) : vlen (mkList vs) = vs.length := by
  induction vs with
  | nil => rfl
  | cons v vs ih => simp [mkList, vlen, ih]

theorem wfList_mkList (p : Val → Bool) (vs : List Val) :
    wfList p vs.length (mkList vs) = vs.all p := by
  induction vs with
  | nil => rfl
  | cons v vs ih => simp [mkList, wfList, ih]

theorem wf_dyn_map {α} (t : Ty) (f : α → Val) (l : List α) :
    wf (.dyn t) (mkList (l.map f)) = (decide (l.length < 2^32) && l.all fun x => wf t (f x)) := by
  have h := wfList_mkList (wf t) (l.map f)
  simp only [List.length_map] at h
  simp [wf, h, List.all_map, Function.comp_def]

theorem wf_dyn_list (t : Ty) (l : List Val) :
    wf (.dyn t) (mkList l) = (decide (l.length < 2^32) && l.all (wf t)) := by
  simpa using wf_dyn_map t id l

theorem wf_str (s : Str) : wf .str (vStr s) = okStr s := by rw [vStr, wf, okStr]

theorem wf_i32 (i : Int) : wf (.sint 32) (.int i) = okI32 i := by rw [wf, okI32]; rfl
theorem wf_u32 (i : Int) : wf (.uint 32) (.int i) = okU32 i := by rw [wf, okU32]

theorem wf_meta (m : RMeta) : wf tyMeta (metaVal m) = okMeta m := by
  simp only [tyMeta, fld, metaVal, mkList, wf_cons, wf_nil, wf_str, wf_i32, okMeta, Bool.and_true,
    Bool.and_assoc]

theorem wf_optMeta (m : Option RMeta) : wf (.opt tyMeta) (optMeta m) = okOptMeta m := by
  cases m with
  | none => rfl
  | some m => exact wf_meta m

theorem wf_tyRec (name : Str) (size : Nat) (kind : Str) :
    wf tyType (tyRec name size kind) = (okStr name && decide (size < 2^32) && okStr kind) := by
  simp only [tyType, fld, tyRec, mkList, wf_cons, wf_nil, wf_str, wf_natCast (.uint 32), Bool.and_true,
    Bool.and_assoc]

theorem okStr_kinds : okStr cArray = true ∧ okStr cDynamicArray = true ∧ okStr cOptional = true ∧
    okStr cUnsigned = true ∧ okStr cSigned = true ∧ okStr cFloat = true ∧ okStr cDouble = true ∧
    okStr cStr = true ∧ okStr cEnum = true ∧ okStr cStruct = true ∧ okStr cF32 = true ∧
    okStr cF64 = true := by decide

theorem chain_all (t : RTy) : (chain t).all (wf tyType) = okChain t := by
  induction t <;> simp [chain, okChain, wf_tyRec, okStr_kinds, *]

theorem wf_chain (t : RTy) : wf (.dyn tyType) (mkList (chain t)) = okTy t := by
  rw [wf_dyn_list, chain_all]; rfl

theorem wf_optStr (u : Option Str) : wf (.opt .str) (vOpt (u.map vStr)) = okOptStr u := by
  cases u <;> rfl

theorem wf_optWord (w : Option Nat) : wf (.opt .f64) (vOpt (w.map fun w => .int w)) = okOptWord w := by
  cases w with
  | none => rfl
  | some w => exact wf_natCast .f64 w

theorem wf_field (f : RField) : wf tyStructField (fieldVal f) = okField f := by
  simp only [tyStructField, fld, fieldVal, mkList, wf_cons, wf_nil, wf_str, wf_u32, wf_i32, wf_chain, wf_optStr, wf_optWord, wf_optMeta,
    okField, Bool.and_true, Bool.and_assoc]

theorem wf_struct (s : RStruct) : wf tyStruct (structVal s) = okStruct s := by
  simp only [tyStruct, fld, structVal, mkList, wf_cons, wf_nil, wf_str, wf_u32, wf_i32, wf_dyn_map, wf_field, wf_optMeta, okStruct,
    Bool.and_true, Bool.and_assoc]

theorem wf_enumerator (x : REnumerator) :
    wf tyEnumeration ((vStr x.name).cons ((Val.int x.value).cons ((optMeta x.pos).cons Val.nil))) = okEnumerator x := by
  simp only [tyEnumeration, fld, mkList, wf_cons, wf_nil, wf_str, wf_u32, wf_i32, wf_optMeta, okEnumerator, Bool.and_true, Bool.and_assoc]

theorem wf_enum (e : REnum) : wf tyEnum (enumVal e) = okEnum e := by
  simp only [tyEnum, fld, enumVal, mkList, wf_cons, wf_nil, wf_str, wf_u32, wf_i32, wf_dyn_map, wf_enumerator, wf_optMeta, okEnum,
    Bool.and_true, Bool.and_assoc]

theorem wf_dict (kvs : List (Str × XV)) : wf (.dyn tyDictField) (dictVal kvs) = okDict kvs := by
  unfold dictVal okDict
  rw [wf_dyn_map]
  congr 1
  apply List.all_congr rfl
  intro kv
  obtain ⟨k, v⟩ := kv
  simp only [tyDictField, fld, mkList, wf_cons, wf_nil, wf_str, wf_u32, wf_i32, Bool.and_true]

theorem wf_signal (s : RSignal) : wf tySignalBlock (signalVal s) = okSignal s := by
  simp only [tySignalBlock, fld, signalVal, mkList, wf_cons, wf_nil, wf_str, wf_u32, wf_i32, wf_dict, wf_optMeta, okSignal, Bool.and_true,
    Bool.and_assoc]

theorem wf_impl (i : RImpl) : wf tyImpl (implVal i) = okImpl i := by
  simp only [tyImpl, fld, implVal, mkList, wf_cons, wf_nil, wf_str, wf_u32, wf_i32, wf_dict, wf_dyn_map, wf_signal, wf_optMeta, okImpl,
    Bool.and_true, Bool.and_assoc]

theorem wf_method (m : RMethod) : wf tyMethod (methodVal m) = okMethod m := by
  simp only [tyMethod, fld, methodVal, mkList, wf_cons, wf_nil, wf_str, wf_u32, wf_i32, wf_optMeta, okMethod, Bool.and_true, Bool.and_assoc]

theorem wf_service (s : RService) : wf tyService (serviceVal s) = okService s := by
  simp only [tyService, fld, serviceVal, mkList, wf_cons, wf_nil, wf_str, wf_u32, wf_i32, wf_dyn_map, wf_method, wf_optMeta, okService,
    Bool.and_true, Bool.and_assoc]

/-- the tag `"fcp"` is three bytes -/
theorem wf_tag : wf (.arr (.uint 8) 3) (mkList [.int 0x66, .int 0x63, .int 0x70]) = true := by decide

theorem wf_u16 (i : Int) : wf (.uint 16) (.int i) = (decide (0 ≤ i) && decide (i < 2^16)) := by rw [wf]

/-- **the record fits reflection.fcp exactly for the schemas in range** -/
theorem wf_reflect (S : RSchema) : wf reflTy (reflect S) = InReflRange S := by
  rw [reflect, mkList, reflTy, fld, wf_cons, wf_tag]
  simp only [fld, mkList, wf_cons, wf_nil, wf_u16, wf_dyn_map, wf_struct, wf_enum, wf_impl, wf_service,
    InReflRange, Bool.true_and, Bool.and_true, Bool.and_assoc]

/-! ## the type part in natural terms: widths, sizes, names and nesting depth -/

theorem all_cons_lt {c : Nat} {l : List Nat} (hc : c < 128) (h : l.all (· < 128) = true) :
    (c :: l).all (· < 128) = true := by
  rw [List.all_cons, h, Bool.and_true]; exact decide_eq_true hc

theorem digitsAux_ok (f n : Nat) (acc : List Nat) (h : acc.all (· < 128) = true) :
    (digitsAux f n acc).all (· < 128) = true ∧ (digitsAux f n acc).length ≤ f + acc.length := by
  induction f generalizing n acc with
  | zero => exact ⟨h, Nat.le_add_left _ _⟩
  | succ f ih =>
    rw [digitsAux]
    split
    · exact ⟨all_cons_lt (by omega) h, by rw [List.length_cons]; omega⟩
    · have := ih (n / 10) _ (all_cons_lt (c := 48 + n % 10) (by omega) h)
      rw [List.length_cons] at this
      exact ⟨this.1, by omega⟩

theorem natCodes_ok (n : Nat) : (natCodes n).all (· < 128) = true ∧ (natCodes n).length ≤ n + 1 :=
  digitsAux_ok (n + 1) n [] rfl

/-- widths and array sizes below 2^32 − 2 (the real ones are at most 64), type names that are texts -/
def smallTy : RTy → Bool
  | .u n => n < 2^32 - 2
  | .i n => n < 2^32 - 2
  | .f32 | .f64 | .str => true
  | .enum n => okStr n
  | .struct n => okStr n
  | .arr t n => n < 2^32 && smallTy t
  | .dyn t => smallTy t
  | .opt t => smallTy t

def RTy.depth : RTy → Nat
  | .arr t _ => t.depth + 1
  | .dyn t => t.depth + 1
  | .opt t => t.depth + 1
  | _ => 0

theorem chain_length (t : RTy) : (chain t).length = t.depth + 1 := by
  induction t with
  | arr _ _ ih => exact congrArg (· + 1) ih
  | dyn _ ih => exact congrArg (· + 1) ih
  | opt _ ih => exact congrArg (· + 1) ih
  | _ => rfl

theorem okStr_digits (c n : Nat) (hc : c < 128) (h : n < 2^32 - 2) : okStr (c :: natCodes n) = true := by
  have := natCodes_ok n
  simp only [okStr, List.length_cons, utf8Valid_of_ascii _ (all_cons_lt hc this.1), Bool.and_true,
    decide_eq_true_eq]
  omega

theorem okChain_of_small (t : RTy) (h : smallTy t = true) : okChain t = true := by
  induction t with
  | u n => exact okStr_digits 117 n (by decide) (of_decide_eq_true h)
  | i n => exact okStr_digits 105 n (by decide) (of_decide_eq_true h)
  | arr e n ih =>
    simp only [smallTy, Bool.and_eq_true, decide_eq_true_eq] at h
    simp [okChain, h.1, ih h.2]
  | dyn e ih => exact ih h
  | opt e ih => exact ih h
  | f32 | f64 | str => rfl
  | enum n => exact h
  | struct n => exact h

theorem okTy_of_small (t : RTy) (h : smallTy t = true) (hd : t.depth + 1 < 2^32) : okTy t = true := by
  simp [okTy, chain_length, okChain_of_small t h]
  omega

end Fcp.Refl
