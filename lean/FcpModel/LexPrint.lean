import FcpModel.LexStep
/-!
# The lexer inverts printing (character level)

`Render ts line cs`: the text `cs` is a printing of the token list `ts` starting on line `line`
— every token preceded by any run of ignorables (spaces, tabs, line feeds, `//` comments,
`/* */` comments), word-like tokens separated from what follows, the recorded line of each
token being the line it starts on.  `lex_render`: the reference lexer maps every such text
back to exactly `ts`.  Together with `parseFile_print` (token level) this closes the reference
front end from characters to the tree.
-/
namespace Fcp.Syntax

/-! ## ignorables -/

/-- a `/* */` body: no `*/` inside -/
def noClose : List Char → Bool
  | '*' :: '/' :: _ => false
  | _ :: cs => noClose cs
  | [] => true

def nlCount : List Char → Nat
  | [] => 0
  | c :: cs => (if c == '\n' then 1 else 0) + nlCount cs

theorem skipBlock_body (body cs : List Char) (n : Nat) (h : noClose body = true) :
    skipBlock (body ++ '*' :: '/' :: cs) n = some (cs, n + nlCount body) := by
  fun_induction noClose body generalizing n with
  | case1 t => cases h
  | case2 c b hne ih =>
    -- the last equation of `skipBlock` applies: `c :: b` does not begin with `*/`
    rw [List.cons_append, skipBlock, ih _ h, nlCount]
    · split <;> simp <;> omega
    · intro t hc ht
      cases b with
      | nil => cases ht
      | cons d b' => cases ht; exact hne b' hc rfl
  | case3 => rfl

/-- a run of ignorables and the number of line feeds in it -/
inductive Ign : List Char → Nat → Prop
  | nil : Ign [] 0
  | space (cs n) : Ign cs n → Ign (' ' :: cs) n
  | tab (cs n) : Ign cs n → Ign ('\t' :: cs) n
  | nl (cs n) : Ign cs n → Ign ('\n' :: cs) (n + 1)
  | line (body cs n) : body.all (· != '\n') = true → Ign cs n → Ign ('/' :: '/' :: (body ++ '\n' :: cs)) (n + 1)
  | block (body cs n) : noClose body = true → Ign cs n →
      Ign ('/' :: '*' :: (body ++ '*' :: '/' :: cs)) (nlCount body + n)

theorem takeWhile_append (p : Char → Bool) (a r : List Char) (ha : a.all p = true)
    (hr : r.head?.all (fun c => !p c) = true) : takeWhile p (a ++ r) = (a, r) := by
  induction a with
  | nil =>
    cases r with
    | nil => rfl
    | cons c r => simp at hr; simp [takeWhile, hr]
  | cons c a ih =>
    simp only [List.all_cons, Bool.and_eq_true] at ha
    simp [takeWhile, ha.1, ih ha.2]

/-- a run of ignorables is skipped: whatever the lexer returns on the rest (with any fuel from
`k` on) it returns on the run followed by the rest (with any fuel from `k` plus the run's length on) -/
theorem lex_ign {ig : List Char} {n : Nat} (h : Ign ig n) (rest : List Char) (acc : List LTok)
    (R : Except SynErr (List LTok)) (k : Nat) :
    ∀ (line : Nat), (∀ f, k ≤ f → lexAux f rest (line + n) acc = R) →
    ∀ f, k + ig.length ≤ f → lexAux f (ig ++ rest) line acc = R := by
  induction h with
  | nil => intro line hR f hf; exact hR f hf
  | space cs n _ ih | tab cs n _ ih =>
    intro line hR f hf
    cases f with
    | zero => exact absurd hf (Nat.not_succ_le_zero _)
    | succ f => exact ih line hR f (Nat.le_of_succ_le_succ hf)
  | nl cs n _ ih =>
    intro line hR f hf
    cases f with
    | zero => exact absurd hf (Nat.not_succ_le_zero _)
    | succ f => exact ih (line + 1) (by rwa [Nat.add_assoc, Nat.add_comm 1]) f (Nat.le_of_succ_le_succ hf)
  | line body cs n hb _ ih =>
    intro line hR f hf
    obtain ⟨f, rfl⟩ : ∃ f0, f = f0 + 2 := ⟨f - 2, by simp at hf; omega⟩
    have htw : takeWhile (· != '\n') (body ++ '\n' :: (cs ++ rest)) = (body, '\n' :: (cs ++ rest)) :=
      takeWhile_append _ _ _ hb (by simp)
    have := ih (line + 1) (by rwa [Nat.add_assoc, Nat.add_comm 1]) f (by simp only [List.length_append, List.length_cons] at hf; omega)
    simpa [lexAux_cons, lexStep, htw] using this
  | block body cs n hb _ ih =>
    intro line hR f hf
    obtain ⟨f, rfl⟩ : ∃ f0, f = f0 + 1 := ⟨f - 1, by simp at hf; omega⟩
    have hs := skipBlock_body body (cs ++ rest) 0 hb
    have := ih (line + nlCount body) (by rwa [Nat.add_assoc]) f (by simp only [List.length_append, List.length_cons] at hf; omega)
    simpa [lexAux_cons, lexStep, hs] using this

/-! ## character classes -/

theorem digit_not_idStart (c : Char) (h : c.isDigit = true) : isIdStart c = false := by
  -- a digit is at most `'9'`; the letters start at `'A'`, and `'_'` lies beyond `'9'` too
  have h9 : c.val ≤ '9'.val := by simp only [Char.isDigit, Bool.and_eq_true, decide_eq_true_eq] at h; exact h.2
  have hA : ¬ 'A'.val ≤ c.val := fun h' => absurd (UInt32.le_trans h' h9) (by decide)
  have ha : ¬ 'a'.val ≤ c.val := fun h' => absurd (UInt32.le_trans h' h9) (by decide)
  have hu : (c == '_') = false := by rw [beq_eq_false_iff_ne]; rintro rfl; exact absurd h9 (by decide)
  simp only [isIdStart, Char.isAlpha, Char.isUpper, Char.isLower, ge_iff_le, hA, ha, hu, false_and, decide_false,
    Bool.false_and, Bool.or_self]

theorem digit_ne (c : Char) (h : c.isDigit = true) :
    c ≠ ' ' ∧ c ≠ '\t' ∧ c ≠ '\n' ∧ c ≠ '/' ∧ c ≠ '"' := by
  refine ⟨?_, ?_, ?_, ?_, ?_⟩ <;> (rintro rfl; revert h; decide)

theorem idStart_ne (c : Char) (h : isIdStart c = true) :
    c ≠ ' ' ∧ c ≠ '\t' ∧ c ≠ '\n' ∧ c ≠ '/' ∧ c ≠ '"' := by
  refine ⟨?_, ?_, ?_, ?_, ?_⟩ <;> (rintro rfl; revert h; decide)

def symChars : List Char := "{}[](),:;@|=.".toList

theorem sym_facts : ∀ c ∈ symChars,
    c ≠ ' ' ∧ c ≠ '\t' ∧ c ≠ '\n' ∧ c ≠ '/' ∧ c ≠ '"' ∧ isIdStart c = false ∧ c.isDigit = false ∧
    c ≠ '+' ∧ c ≠ '-' ∧ isSym c = true := by decide +kernel

/-! ## token texts -/

variable {β : Type} (err : String → β) (skip : List Char → Nat → β) (tok : Tok → List Char → β)

/-- a character that is not layout, `/` or `"` gets past the first four tests of the step -/
theorem lexStep_word {c : Char} (h : c ≠ ' ' ∧ c ≠ '\t' ∧ c ≠ '\n' ∧ c ≠ '/' ∧ c ≠ '"') (cs : List Char) :
    lexStep err skip tok c cs = wordStep err tok c cs := by
  obtain ⟨h1, h2, h3, h4, h5⟩ := h
  simp only [lexStep, Bool.or_eq_true, beq_iff_eq, h1, h2, h3, h4, h5, or_self, ↓reduceIte]

theorem lexStep_ident (c : Char) (a rest : List Char) (hc : isIdStart c = true) (ha : a.all isIdChar = true)
    (hr : rest.head?.all (fun c => !isIdChar c) = true) :
    lexStep err skip tok c (a ++ rest) = tok (.ident (String.ofList (c :: a))) rest := by
  rw [lexStep_word _ _ _ (idStart_ne c hc)]
  unfold wordStep
  rw [if_pos hc, takeWhile_append isIdChar a rest ha hr]

theorem lexStep_sym (c : Char) (rest : List Char) (hc : c ∈ symChars)
    (hr : c = '.' → rest.head?.all (fun d => !d.isDigit) = true) :
    lexStep err skip tok c rest = tok (.sym c) rest := by
  obtain ⟨h1, h2, h3, h4, h5, h6, h7, h8, h9, h10⟩ := sym_facts c hc
  rw [lexStep_word _ _ _ ⟨h1, h2, h3, h4, h5⟩]
  by_cases hd : c = '.'
  · subst hd
    cases rest with
    | nil => rfl
    | cons d r =>
      have hr' : d.isDigit = false := by simpa using hr rfl
      simp only [wordStep, h6, h7, hr', Bool.false_eq_true, ↓reduceIte, beq_self_eq_true, Bool.or_eq_true, beq_iff_eq,
        Char.reduceEq, or_self]
  · simp only [wordStep, h6, h7, h8, h9, h10, hd, Bool.false_eq_true, ↓reduceIte, Bool.or_eq_true, beq_iff_eq, or_self]

/-- the inside of a string literal: no bare quote or line feed, backslashes in pairs with what follows -/
def strOk : List Char → Bool
  | [] => true
  | '"' :: _ => false
  | '\n' :: _ => false
  | '\\' :: c :: cs => c != '\n' && strOk cs
  | ['\\'] => false
  | _ :: cs => strOk cs

theorem strBody_print (body rest : List Char) (h : strOk body = true) :
    strBody (body ++ '"' :: rest) = some (body, rest) := by
  fun_induction strOk body with
  | case1 => rfl
  | case2 | case3 | case5 => cases h
  | case4 c cs ih =>
    simp only [Bool.and_eq_true, bne_iff_ne, ne_eq] at h
    simp [strBody, h.1, ih h.2]
  | case6 c cs h1 h2 h3 h4 ih =>
    -- the last equation of `strBody` applies: `c` is no quote, no line feed and no backslash
    rw [List.cons_append, strBody]
    · rw [ih h]; rfl
    · exact h1
    · exact h2
    · intro d ds e _
      cases cs with
      | nil => exact h4 e rfl
      | cons x xs => exact h3 x xs e rfl

theorem lexStep_str (body rest : List Char) (h : strOk body = true) :
    lexStep err skip tok '"' (body ++ '"' :: rest) = tok (.str (String.ofList body)) rest := by
  show (match strBody (body ++ '"' :: rest) with
    | some (s, r) => tok (.str (String.ofList s)) r
    | none => err "unterminated string") = _
  rw [strBody_print body rest h]

/-! ## numbers: digits, an optional fraction, an optional exponent -/

inductive Frac : List Char → Prop
  | none : Frac []
  | some (d : List Char) : d.all Char.isDigit = true → Frac ('.' :: d)

inductive Expo : List Char → Prop
  | none : Expo []
  | mk (e : Char) (sg d : List Char) : (e = 'e' ∨ e = 'E') → (sg = [] ∨ sg = ['+'] ∨ sg = ['-']) →
      d ≠ [] → d.all Char.isDigit = true → Expo (e :: (sg ++ d))

/-- what may follow a number: nothing, or a character that cannot continue it -/
def numSep (rest : List Char) : Bool :=
  rest.head?.all fun c => !c.isDigit && c != '.' && c != 'e' && c != 'E'

/-- a condition on the next character, if there is one, may be weakened -/
theorem head_all_mono {p q : Char → Bool} {l : List Char} (h : ∀ c, p c = true → q c = true)
    (hp : l.head?.all p = true) : l.head?.all q = true := by
  cases l with
  | nil => rfl
  | cons c r => exact h c hp

theorem numSep_head (rest : List Char) (h : numSep rest = true) :
    rest.head?.all (fun c => !c.isDigit) = true :=
  head_all_mono (fun c hc => by simp only [Bool.and_eq_true] at hc; exact hc.1.1.1) h

/-- the exponent part, as `numBody` reads it -/
def expPart (r2 : List Char) : List Char × List Char :=
  match r2 with
  | e :: r =>
    if e == 'e' || e == 'E' then
      let (sg, r') : List Char × List Char := match r with
        | '+' :: t => (['+'], t)
        | '-' :: t => (['-'], t)
        | _ => ([], r)
      let (d, r'') := takeWhile Char.isDigit r'
      if d.isEmpty then ([], r2) else (e :: sg ++ d, r'')
    else ([], r2)
  | [] => ([], r2)

theorem expPart_print (ep rest : List Char) (he : Expo ep) (hs : numSep rest = true) :
    expPart (ep ++ rest) = (ep, rest) := by
  cases he with
  | none =>
    cases rest with
    | nil => rfl
    | cons c r =>
      simp [numSep] at hs
      simp [expPart, hs.1.2, hs.2]
  | mk e sg d hE hsg hd hdig =>
    have htw := takeWhile_append Char.isDigit d rest hdig (numSep_head rest hs)
    obtain ⟨d0, ds, rfl⟩ : ∃ d0 ds, d = d0 :: ds := by
      cases d with
      | nil => exact absurd rfl hd
      | cons a b => exact ⟨a, b, rfl⟩
    have hd0 : d0.isDigit = true := by simp at hdig; exact hdig.1
    have hp : d0 ≠ '+' := by rintro rfl; revert hd0; decide
    have hm : d0 ≠ '-' := by rintro rfl; revert hd0; decide
    have he : (e == 'e' || e == 'E') = true := by rcases hE with rfl | rfl <;> rfl
    simp only [List.cons_append] at htw
    rcases hsg with rfl | rfl | rfl <;> simp [expPart, he, htw, hp, hm]

/-- the fraction part, as `numBody` reads it -/
def fracPart (ip r1 : List Char) : List Char × List Char :=
  match r1 with
  | '.' :: r =>
    let (d, r') := takeWhile Char.isDigit r
    if ip.isEmpty && d.isEmpty then ([], r1) else ('.' :: d, r')
  | _ => ([], r1)

theorem numBody_eq (cs : List Char) : numBody cs =
    (let (ip, r1) := takeWhile Char.isDigit cs
     let (fp, r2) := fracPart ip r1
     if ip.isEmpty && fp.isEmpty then none
     else
       let (ep, r3) := expPart r2
       some (ip ++ fp ++ ep, r3)) := rfl

theorem fracPart_print (ip fp tail : List Char) (hne : ip ≠ []) (hf : Frac fp)
    (ht : fp = [] → tail.head?.all (fun c => c != '.') = true)
    (hd : fp ≠ [] → tail.head?.all (fun c => !c.isDigit) = true) :
    fracPart ip (fp ++ tail) = (fp, tail) := by
  cases hf with
  | none =>
    have := ht rfl
    cases tail with
    | nil => rfl
    | cons c r =>
      simp at this
      simp [fracPart, this]
  | some d hdig =>
    have htw := takeWhile_append Char.isDigit d tail hdig (hd (by simp))
    cases ip with
    | nil => exact absurd rfl hne
    | cons a b => simp [fracPart, htw]

theorem numBody_print (ip fp ep rest : List Char) (hne : ip ≠ []) (hip : ip.all Char.isDigit = true)
    (hf : Frac fp) (he : Expo ep) (hs : numSep rest = true) :
    numBody (ip ++ (fp ++ (ep ++ rest))) = some (ip ++ fp ++ ep, rest) := by
  -- what follows each part does not continue it
  have hEp : (ep ++ rest).head?.all (fun c => !c.isDigit && c != '.') = true := by
    cases he with
    | none => exact head_all_mono (fun c hc => by simp only [Bool.and_eq_true] at hc ⊢; exact hc.1.1) hs
    | mk e sg d hE _ _ _ => rcases hE with rfl | rfl <;> rfl
  have hDig : (ep ++ rest).head?.all (fun c => !c.isDigit) = true :=
    head_all_mono (fun c hc => by simp only [Bool.and_eq_true] at hc; exact hc.1) hEp
  have hDot : (ep ++ rest).head?.all (fun c => c != '.') = true :=
    head_all_mono (fun c hc => by simp only [Bool.and_eq_true] at hc; exact hc.2) hEp
  have hFp : (fp ++ (ep ++ rest)).head?.all (fun c => !c.isDigit) = true := by
    cases hf with
    | none => exact hDig
    | some d _ => rfl
  have h1 := takeWhile_append Char.isDigit ip (fp ++ (ep ++ rest)) hip hFp
  have h2 := fracPart_print ip fp (ep ++ rest) hne hf (fun _ => hDot) (fun _ => hDig)
  have h3 := expPart_print ep rest he hs
  rw [numBody_eq]
  simp only [h1, h2, h3]
  cases ip with
  | nil => exact absurd rfl hne
  | cons a b => simp

theorem lexStep_num (c : Char) (ip' fp ep rest : List Char) (hc : c.isDigit = true)
    (hip : ip'.all Char.isDigit = true) (hf : Frac fp) (he : Expo ep) (hs : numSep rest = true) :
    lexStep err skip tok c (ip' ++ (fp ++ (ep ++ rest))) = tok (.num (String.ofList ((c :: ip') ++ fp ++ ep))) rest := by
  have hnb : numBody (c :: (ip' ++ (fp ++ (ep ++ rest)))) = _ :=
    numBody_print (c :: ip') fp ep rest (by simp) (by simp [hc, hip]) hf he hs
  rw [lexStep_word _ _ _ (digit_ne c hc)]
  unfold wordStep
  rw [if_neg (by simp [digit_not_idStart c hc]), if_pos hc, numStep, hnb]
  simp

theorem lexStep_snum (sg : Char) (ip fp ep rest : List Char) (hsg : sg = '+' ∨ sg = '-') (hne : ip ≠ [])
    (hip : ip.all Char.isDigit = true) (hf : Frac fp) (he : Expo ep) (hs : numSep rest = true) :
    lexStep err skip tok sg (ip ++ (fp ++ (ep ++ rest))) = tok (.num (String.ofList (sg :: (ip ++ fp ++ ep)))) rest := by
  have hnb := numBody_print ip fp ep rest hne hip hf he hs
  have hw : sg ≠ ' ' ∧ sg ≠ '\t' ∧ sg ≠ '\n' ∧ sg ≠ '/' ∧ sg ≠ '"' := by rcases hsg with rfl | rfl <;> decide
  have hi : ¬ isIdStart sg = true := by rcases hsg with rfl | rfl <;> decide
  have hd : ¬ sg.isDigit = true := by rcases hsg with rfl | rfl <;> decide
  have hs : (sg == '+' || sg == '-') = true := by rcases hsg with rfl | rfl <;> rfl
  rw [lexStep_word _ _ _ hw]
  unfold wordStep
  rw [if_neg hi, if_neg hd, if_pos hs, numStep, hnb]
  simp

/-! ## printing and the inverse -/

/-- the text of one token -/
inductive TokText : Tok → List Char → Prop
  | ident (c : Char) (a : List Char) : isIdStart c = true → a.all isIdChar = true →
      TokText (.ident (String.ofList (c :: a))) (c :: a)
  | num (c : Char) (ip' fp ep : List Char) : c.isDigit = true → ip'.all Char.isDigit = true → Frac fp → Expo ep →
      TokText (.num (String.ofList ((c :: ip') ++ fp ++ ep))) (c :: (ip' ++ (fp ++ ep)))
  | snum (sg : Char) (ip fp ep : List Char) : (sg = '+' ∨ sg = '-') → ip ≠ [] → ip.all Char.isDigit = true →
      Frac fp → Expo ep → TokText (.num (String.ofList (sg :: (ip ++ fp ++ ep)))) (sg :: (ip ++ (fp ++ ep)))
  | str (body : List Char) : strOk body = true → TokText (.str (String.ofList body)) ('"' :: (body ++ ['"']))
  | sym (c : Char) : c ∈ symChars → TokText (.sym c) [c]

/-- what may follow the text of a token, so that the token ends where its text ends -/
def TokSep : Tok → List Char → Prop
  | .ident _, rest => rest.head?.all (fun c => !isIdChar c) = true
  | .num _, rest => numSep rest = true
  | .str _, _ => True
  | .sym c, rest => c = '.' → rest.head?.all (fun d => !d.isDigit) = true

theorem TokText.length_pos {t : Tok} {txt : List Char} (h : TokText t txt) : 1 ≤ txt.length := by
  cases h <;> simp

/-- the lexer's step on the text of a token, followed by something that ends it, is that token -/
theorem lex_tok (t : Tok) (txt : List Char) (h : TokText t txt) (rest : List Char) (hs : TokSep t rest)
    (f line : Nat) (acc : List LTok) :
    lexAux (f + 1) (txt ++ rest) line acc = lexAux f rest line (⟨t, line⟩ :: acc) := by
  cases h with
  | ident c a hc ha => rw [List.cons_append, lexAux_cons, lexStep_ident _ _ _ c a rest hc ha hs]
  | num c ip' fp ep hc hip hf he =>
    rw [List.cons_append, lexAux_cons, List.append_assoc, List.append_assoc, lexStep_num _ _ _ c ip' fp ep rest hc hip hf he hs]
  | snum sg ip fp ep hsg hne hip hf he =>
    rw [List.cons_append, lexAux_cons, List.append_assoc, List.append_assoc, lexStep_snum _ _ _ sg ip fp ep rest hsg hne hip hf he hs]
  | str body hb =>
    rw [List.cons_append, lexAux_cons, List.append_assoc, List.singleton_append, lexStep_str _ _ _ body rest hb]
  | sym c hc => rw [List.singleton_append, lexAux_cons, lexStep_sym _ _ _ c rest hc hs]

/-- `Render ts line cs`: `cs` is a printing of the tokens `ts` that starts on line `line` -/
inductive Render : List LTok → Nat → List Char → Prop
  | nil (ig : List Char) (n line : Nat) : Ign ig n → Render [] line ig
  | comment (ig : List Char) (n : Nat) (body : List Char) (line : Nat) : Ign ig n →
      body.all (· != '\n') = true → Render [] line (ig ++ '/' :: '/' :: body)
  | cons (ig : List Char) (n : Nat) (t : Tok) (txt rest : List Char) (ts : List LTok) (line : Nat) :
      Ign ig n → TokText t txt → TokSep t rest → Render ts (line + n) rest →
      Render (⟨t, line + n⟩ :: ts) line (ig ++ (txt ++ rest))

theorem lexAux_render (ts : List LTok) (line : Nat) (cs : List Char) (h : Render ts line cs) :
    ∀ (acc : List LTok) (f : Nat), cs.length + 1 ≤ f → lexAux f cs line acc = .ok (acc.reverse ++ ts) := by
  induction h with
  | nil ig n line hig =>
    intro acc f hf
    rw [← List.append_nil ig]
    refine lex_ign hig [] acc _ 1 line (fun f hf => ?_) f (by omega)
    obtain ⟨f, rfl⟩ : ∃ f0, f = f0 + 1 := ⟨f - 1, by omega⟩
    rw [List.append_nil]
    rfl
  | comment ig n body line hig hb =>
    intro acc f hf
    refine lex_ign hig _ acc _ 2 line (fun f hf => ?_) f
      (by simp only [List.length_append, List.length_cons] at hf; omega)
    obtain ⟨f, rfl⟩ : ∃ f0, f = f0 + 2 := ⟨f - 2, by omega⟩
    have htw : takeWhile (· != '\n') body = (body, []) := by
      simpa using takeWhile_append (· != '\n') body [] hb rfl
    rw [lexAux_cons]
    show lexAux (f + 1) (takeWhile (· != '\n') body).2 _ _ = _
    rw [htw, List.append_nil]
    rfl
  | cons ig n t txt rest ts line hig htxt hsep _ ih =>
    intro acc f hf
    have hl := htxt.length_pos
    refine lex_ign hig _ acc _ (txt.length + rest.length + 1) line (fun f hf => ?_) f
      (by simp only [List.length_append] at hf; omega)
    obtain ⟨f, rfl⟩ : ∃ f0, f = f0 + 1 := ⟨f - 1, by omega⟩
    rw [lex_tok t txt htxt rest hsep f (line + n) acc, ih _ f (by omega)]
    simp

/-- **the lexer inverts printing**: every printing of a token list, with any ignorables between
the tokens, lexes back to exactly that list (tokens and the lines they start on) -/
theorem lex_render (ts : List LTok) (cs : List Char) (h : Render ts 1 cs) :
    lex (String.ofList cs) = .ok ts := by
  have := lexAux_render ts 1 cs h [] (cs.length + 1) (Nat.le_refl _)
  simpa [lex] using this

end Fcp.Syntax
