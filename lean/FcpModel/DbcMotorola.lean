import FcpModel.Dbc
/-!
# DbcMotorola: big-endian (Motorola) signals of the generated DBC

The DBC writer emits a big-endian leaf at layout range `[start, start + len)` as a Motorola
signal whose start bit is `start + 7` (the most significant bit of its first byte, in DBC bit
numbering `8 * byte + bit`).  A DBC reader walks such a signal from its MSB downwards inside
a byte and continues at bit 7 of the next byte ("sawtooth").  For the leaves the writer
supports (byte-aligned, whole bytes) that reads the bytes of the range most significant first.
-/
namespace Fcp

/-- the bits of a Motorola signal, most significant first, starting at DBC bit `p` -/
def motoBits (frame : Bits) : Nat → Nat → List Bool
  | _, 0 => []
  | p, n+1 => frame.getD p false :: motoBits frame (if p % 8 = 0 then p + 15 else p - 1) n

def msbNat (bs : List Bool) : Nat := bs.foldl (fun acc b => 2 * acc + (if b then 1 else 0)) 0

/-- Motorola extraction as DBC readers do -/
def extractMotorola (frame : Bits) (start len : Nat) : Nat := msbNat (motoBits frame start len)

/-- big-endian placement of the low `8*k` bits of `w`: most significant byte first, each byte
LSB-first inside the bit list (as every byte of a frame is) -/
def bigBits : Nat → Nat → Bits
  | 0, _ => []
  | k+1, w => natBits 8 (w / 256 ^ k) ++ bigBits k w

/-- one value per leaf, big-endian leaves with their bytes swapped -/
def packLeavesE : List Leaf → List Int → Bits
  | l :: ls, v :: vs =>
    (if l.endian == "big" then bigBits (l.len / 8) (toTwos l.len v) else natBits l.len (toTwos l.len v))
      ++ packLeavesE ls vs
  | _, _ => []

theorem bigBits_length (k w : Nat) : (bigBits k w).length = 8 * k := by
  induction k with
  | zero => rfl
  | succ k ih => rw [bigBits, List.length_append, natBits_length, ih, Nat.mul_succ, Nat.add_comm]

theorem motoBits_length (frame : Bits) (p n : Nat) : (motoBits frame p n).length = n := by
  induction n generalizing p with
  | zero => rfl
  | succ n ih => simp only [motoBits, List.length_cons, ih]

/-- reading most significant bit first is reading the reversed list least significant first -/
theorem msbNat_eq (l : List Bool) : msbNat l = bitsNat l.reverse := by
  unfold msbNat
  suffices ∀ init, l.foldl (fun acc b => 2 * acc + (if b then 1 else 0)) init
      = bitsNat l.reverse + 2 ^ l.length * init by simpa using this 0
  induction l with
  | nil => intro init; simp [bitsNat]
  | cons x xs ih =>
    intro init
    rw [List.foldl_cons, ih, List.reverse_cons, bitsNat_append, List.length_reverse, Nat.add_assoc,
      List.length_cons, Nat.pow_succ, bitsNat, bitsNat, Nat.mul_zero, Nat.add_zero, Nat.mul_add,
      Nat.mul_assoc, Nat.add_comm (2 ^ xs.length * _)]

/-- `j + 1` sawtooth steps from bit `j` of byte `b` read bits `j, …, 0` of that byte and land
on bit 7 of the next -/
theorem motoBits_down (frame : Bits) (b n j : Nat) (hj : j < 8) (h : 8 * b + j < frame.length) :
    motoBits frame (8 * b + j) (n + (j + 1)) =
      ((frame.drop (8 * b)).take (j + 1)).reverse ++ motoBits frame (8 * b + 15) n := by
  rw [reverse_take_drop_succ frame _ j false h, List.cons_append]
  induction j with
  | zero => simp only [motoBits, Nat.add_zero, Nat.mul_mod_right, ↓reduceIte, List.take_zero,
      List.reverse_nil, List.nil_append]
  | succ j ih =>
    rw [← Nat.add_assoc n, motoBits, if_neg (by omega)]
    exact congrArg _ ((ih (by omega) (by omega)).trans
      (by rw [reverse_take_drop_succ frame _ j false (by omega), List.cons_append]))

/-- eight steps from bit 7 of byte `b` read that byte, most significant bit first -/
theorem motoBits_byte (frame : Bits) (b n : Nat) (h : 8 * b + 8 ≤ frame.length) :
    motoBits frame (8 * b + 7) (n + 8) =
      ((frame.drop (8 * b)).take 8).reverse ++ motoBits frame (8 * (b + 1) + 7) n :=
  motoBits_down frame b n 7 (by omega) (by omega)

/-- **Motorola extraction of a big-endian leaf**: in a frame holding `bigBits k w` at the
byte-aligned bit offset `8*b`, the Motorola signal starting at `8*b + 7` of length `8*k` reads
the low `8*k` bits of `w` -/
theorem extractMotorola_bigBits (pre post : Bits) (b k w : Nat) (hp : pre.length = 8 * b) :
    extractMotorola (pre ++ bigBits k w ++ post) (8 * b + 7) (8 * k) = w % 2 ^ (8 * k) := by
  unfold extractMotorola
  induction k generalizing pre b with
  | zero => exact (Nat.mod_one w).symm
  | succ k ih =>
    -- the first byte, then (by `ih` behind `pre ++` that byte) the remaining ones
    have hfr : pre ++ bigBits (k + 1) w ++ post
        = (pre ++ natBits 8 (w / 256 ^ k)) ++ bigBits k w ++ post := by
      simp only [bigBits, List.append_assoc]
    rw [Nat.mul_add, Nat.mul_one,
      motoBits_byte _ _ _ (by simp only [hfr, List.length_append, natBits_length, hp]; omega),
      msbNat_eq, List.reverse_append, List.reverse_reverse, bitsNat_append, List.length_reverse,
      motoBits_length, ← msbNat_eq, hfr,
      ih _ (b + 1) (by rw [List.length_append, natBits_length, hp, Nat.mul_add]),
      List.append_assoc (pre ++ _), slice_mid pre _ _ hp (natBits_length 8 _), bitsNat_natBits_mod]
    -- w / 2^(8k) % 2^8 and w % 2^(8k) are the two parts of w % 2^(8k+8)
    rw [Nat.pow_add, Nat.mod_mul, Nat.pow_mul]

/-- the bits one leaf contributes to the frame -/
def leafPiece (l : Leaf) (v : Int) : Bits :=
  if l.endian == "big" then bigBits (l.len / 8) (toTwos l.len v) else natBits l.len (toTwos l.len v)

theorem leafPiece_length (l : Leaf) (v : Int) (h : l.endian = "big" → l.len % 8 = 0) :
    (leafPiece l v).length = l.len := by
  unfold leafPiece
  split
  · rename_i hb
    have := h (by simpa using hb)
    rw [bigBits_length]; omega
  · exact natBits_length _ _

theorem packLeavesE_eq (ls : List Leaf) (vs : List Int) :
    packLeavesE ls vs = (List.zipWith leafPiece ls vs).flatten := by
  induction ls generalizing vs with
  | nil => rfl
  | cons l ls ih => cases vs with
    | nil => rfl
    | cons v vs => simp only [packLeavesE, ih, List.zipWith_cons_cons, List.flatten_cons, leafPiece]

/-- **decode ∘ pack = id, both byte orders**: in a frame packed from a tiling layout that starts
at bit 0, reading the `k`-th signal as the generated DBC describes it — Intel at `start` for a
little-endian leaf, Motorola at `start + 7` for a big-endian (byte-aligned, whole-byte) leaf —
returns the two's-complement word of the `k`-th value -/
theorem extract_packE (ls : List Leaf) (vs : List Int) (e : Nat) (h : Tiles 0 ls e)
    (hv : vs.length = ls.length)
    (hbig : ∀ l ∈ ls, l.endian = "big" → l.len % 8 = 0 ∧ l.start % 8 = 0)
    (k : Nat) (hk : k < ls.length) :
    (if ls[k].endian == "big" then extractMotorola (packLeavesE ls vs) (ls[k].start + 7) ls[k].len
     else extractIntel (packLeavesE ls vs) ls[k].start ls[k].len) = toTwos ls[k].len (vs[k]'(by omega)) := by
  obtain ⟨pre, post, h1, h2⟩ := h.pack_split leafPiece vs hv
    (fun l hl v => leafPiece_length l v fun hb => (hbig l hl hb).1) k hk
  rw [packLeavesE_eq, h1]
  unfold leafPiece
  split
  · rename_i hb
    obtain ⟨ha, hs⟩ := hbig ls[k] (List.getElem_mem _) (by simpa using hb)
    have := extractMotorola_bigBits pre post (ls[k].start / 8) (ls[k].len / 8)
      (toTwos ls[k].len (vs[k]'(by omega))) (by omega)
    rw [Nat.mul_div_cancel' (Nat.dvd_of_mod_eq_zero hs), Nat.mul_div_cancel' (Nat.dvd_of_mod_eq_zero ha)] at this
    rw [this]
    exact Nat.mod_eq_of_lt (toTwos_lt _ _)
  · exact extractIntel_mid pre post _ _ (toTwos_lt _ _) (by omega)

end Fcp
