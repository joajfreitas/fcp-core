import FcpModel.FieldOrder
import FcpModel.Lists
/-!
# Verifier: model of `fcp.verifier` and of the plug-in checks

`verifyModel` is the category loop of `Verifier.verify` with the registered checks in
registration order, each written with the code's own `count(x) > 1` idiom.
`WellFormed`, `DbcOk`, `COk` are the specification.
-/
namespace Fcp

inductive Rule where
  | emptyStruct | dupField | dupEnumName | dupEnumValue | dupImpl | implNoStruct
  | dupCanId | implTooBig | dupType | missingService | serviceRpc | intWidth
  deriving Repr, DecidableEq, Inhabited

inductive CheckSet where
  | general | dbc | canC | cpp
  deriving Repr, DecidableEq, Inhabited

/-- first element of `xs` failing `ok`, as the loop `for node in nodes: check(node).attempt()` -/
def firstFail {α : Type} (ok : α → Bool) (r : Rule) (xs : List α) : Except Rule Unit :=
  if xs.all ok then .ok () else .error r

def typeNames (S : Schema) : List String := S.structs.map (·.name) ++ S.enums.map (·.name)

def implKeys (S : Schema) : List (String × String) := S.impls.map fun i => (i.name, i.protocol)

def serviceNames (S : Schema) : List String := S.services.map (·.name)

/-- key of an impl's `id` field for equality (`impl.fields.get("id")`) -/
def xvalKey : XVal → String
  | .int i => "i" ++ toString i
  | .flt s => "f" ++ s
  | .str s => "s" ++ s
  | .arr _ => "a"

def Impl.idKey (i : Impl) : String :=
  match i.fields.lookup "id" with
  | some v => xvalKey v
  | none => "none"

def canIdKeys (S : Schema) : List String :=
  (S.impls.filter (·.protocol == "can")).map (·.idKey)

/-- packed size of a CAN binding, `none` when it has no static size -/
def implBits (S : Schema) (fuel : Nat) (i : Impl) : Option Nat :=
  (generate S true fuel i).map (·.2)

/-! the checks -/

def chkEmptyStruct (S : Schema) : Except Rule Unit :=
  firstFail (fun st : Struct => !st.fields.isEmpty) .emptyStruct S.structs

def chkDupField (S : Schema) : Except Rule Unit :=
  firstFail (fun st : Struct =>
    st.fields.all fun f => (st.fields.map (·.name)).count f.name ≤ 1) .dupField S.structs

def chkDupEnumName (S : Schema) : Except Rule Unit :=
  firstFail (fun e : Enum =>
    e.enumeration.all fun x => (e.enumeration.map (·.name)).count x.name ≤ 1) .dupEnumName S.enums

def chkDupEnumValue (S : Schema) : Except Rule Unit :=
  firstFail (fun e : Enum =>
    e.enumeration.all fun x => (e.enumeration.map (·.value)).count x.value ≤ 1) .dupEnumValue S.enums

def chkDupImpl (S : Schema) : Except Rule Unit :=
  firstFail (fun i : Impl => (implKeys S).count (i.name, i.protocol) ≤ 1) .dupImpl S.impls

def chkImplStruct (S : Schema) : Except Rule Unit :=
  firstFail (fun i : Impl => (S.getStruct i.type).isSome) .implNoStruct S.impls

def chkDupCanId (S : Schema) : Except Rule Unit :=
  firstFail (fun i : Impl => !(i.protocol == "can") || (canIdKeys S).count i.idKey ≤ 1) .dupCanId S.impls

def chkImplSize (S : Schema) (fuel : Nat) : Except Rule Unit :=
  firstFail (fun i : Impl => !(i.protocol == "can") ||
    (match implBits S fuel i with | some n => n ≤ 64 | none => false)) .implTooBig S.impls

def chkDupType (S : Schema) : Except Rule Unit :=
  firstFail (fun n : String => (typeNames S).count n ≤ 1) .dupType (typeNames S)

def chkServices (S : Schema) : Except Rule Unit :=
  firstFail (fun d : Device =>
    match d.services with
    | none => true
    | some l => l.all fun s => (serviceNames S).contains s) .missingService S.devices

/-- the innermost element type of a field type (containers peeled off) -/
def STy.leaf : STy → STy
  | .arr t _ => t.leaf
  | .dyn t => t.leaf
  | .opt t => t.leaf
  | t => t

/-- the C++ plug-in's check of one field (category `field`): an integer has a carrier type -/
def widthOk (t : STy) : Bool :=
  match t.leaf with
  | .u n => decide (1 ≤ n ∧ n ≤ 64)
  | .i n => decide (1 ≤ n ∧ n ≤ 64)
  | _ => true

def chkWidths (S : Schema) : Except Rule Unit :=
  firstFail (fun st : Struct => st.fields.all fun f => widthOk f.ty) .intWidth S.structs

/-- the C++ plug-in's check of one service (category `service`): what its rpc layer needs -/
def serviceRpcOk (S : Schema) (sv : Service) : Bool :=
  decide ((S.services.map (·.name)).count sv.name ≤ 1) &&
  decide ((S.services.map (·.id)).count sv.id ≤ 1) &&
  decide (0 ≤ sv.id ∧ sv.id ≤ 255) &&
  sv.methods.all fun m =>
    decide ((sv.methods.map (·.name)).count m.name ≤ 1) &&
    decide ((sv.methods.map (·.id)).count m.id ≤ 1) &&
    decide (0 ≤ m.id ∧ m.id ≤ 255) &&
    (S.getStruct m.input).isSome && (S.getStruct m.output).isSome

def chkServiceRpc (S : Schema) : Except Rule Unit :=
  firstFail (serviceRpcOk S) .serviceRpc S.services

/-- `Verifier.verify`: categories struct, field, enum, impl, signal_block, type, service, device -/
def verifyModel (cs : CheckSet) (fuel : Nat) (S : Schema) : Except Rule Unit := do
  chkEmptyStruct S
  chkDupField S
  match cs with
  | .cpp => chkWidths S
  | _ => pure ()
  chkDupEnumName S
  chkDupEnumValue S
  chkDupImpl S
  match cs with
  | .general => pure ()
  | .dbc => do chkImplStruct S; chkDupCanId S
  | .canC => do chkImplStruct S; chkImplSize S fuel
  | .cpp => pure ()
  chkDupType S
  match cs with
  | .cpp => chkServiceRpc S
  | _ => pure ()
  chkServices S

/-! ## specification -/

structure WellFormed (S : Schema) : Prop where
  types : (typeNames S).Nodup
  impls : (implKeys S).Nodup
  fields : ∀ st ∈ S.structs, (st.fields.map (·.name)).Nodup
  nonempty : ∀ st ∈ S.structs, st.fields ≠ []
  enumNames : ∀ e ∈ S.enums, (e.enumeration.map (·.name)).Nodup
  enumValues : ∀ e ∈ S.enums, (e.enumeration.map (·.value)).Nodup
  services : ∀ d ∈ S.devices, ∀ l, d.services = some l → ∀ s ∈ l, s ∈ serviceNames S

structure DbcOk (S : Schema) : Prop where
  bound : ∀ i ∈ S.impls, (S.getStruct i.type).isSome
  ids : (canIdKeys S).Nodup

structure COk (S : Schema) (fuel : Nat) : Prop where
  bound : ∀ i ∈ S.impls, (S.getStruct i.type).isSome
  size : ∀ i ∈ S.impls, i.protocol = "can" → ∃ n, implBits S fuel i = some n ∧ n ≤ 64

/-- every integer field of every struct has a carrier type (1 to 64 bits), inside containers too -/
def WidthsOk (S : Schema) : Prop := ∀ st ∈ S.structs, ∀ f ∈ st.fields, widthOk f.ty = true

/-- what the rpc layer of the C++ generator needs from the services of a schema -/
structure CppOk (S : Schema) : Prop where
  names : (S.services.map (·.name)).Nodup
  ids : (S.services.map (·.id)).Nodup
  idRange : ∀ sv ∈ S.services, 0 ≤ sv.id ∧ sv.id ≤ 255
  methodNames : ∀ sv ∈ S.services, (sv.methods.map (·.name)).Nodup
  methodIds : ∀ sv ∈ S.services, (sv.methods.map (·.id)).Nodup
  methodIdRange : ∀ sv ∈ S.services, ∀ m ∈ sv.methods, 0 ≤ m.id ∧ m.id ≤ 255
  payloads : ∀ sv ∈ S.services, ∀ m ∈ sv.methods, (S.getStruct m.input).isSome ∧ (S.getStruct m.output).isSome

/-! ## the `count > 1` idiom is `Nodup` -/

theorem all_count_le_one_iff_nodup {α : Type} [BEq α] [LawfulBEq α] (l : List α) :
    (∀ x ∈ l, l.count x ≤ 1) ↔ l.Nodup := by
  rw [List.nodup_iff_count]
  refine ⟨fun h a => ?_, fun h x _ => h x⟩
  by_cases ha : a ∈ l
  · exact h a ha
  · rw [List.count_eq_zero_of_not_mem ha]; omega

/-- the idiom as the checks use it: over the keys `f x` of a list -/
theorem forall_count_map_nodup {α β : Type} [BEq β] [LawfulBEq β] (l : List α) (f : α → β) :
    (∀ x ∈ l, (l.map f).count (f x) ≤ 1) ↔ (l.map f).Nodup := by
  rw [← all_count_le_one_iff_nodup, List.forall_mem_map]

theorem firstFail_ok {α : Type} (ok : α → Bool) (r : Rule) (xs : List α) :
    firstFail ok r xs = .ok () ↔ ∀ x ∈ xs, ok x = true := by
  rw [firstFail, ← List.all_eq_true]
  split <;> simp [*]

theorem firstFail_cases {α : Type} (ok : α → Bool) (r : Rule) (xs : List α) :
    firstFail ok r xs = .ok () ∨ firstFail ok r xs = .error r := by
  unfold firstFail; split <;> simp

theorem chkEmptyStruct_ok (S : Schema) :
    chkEmptyStruct S = .ok () ↔ ∀ st ∈ S.structs, st.fields ≠ [] := by
  simp only [chkEmptyStruct, firstFail_ok, Bool.not_eq_true', List.isEmpty_eq_false_iff, ne_eq]

theorem chkDupField_ok (S : Schema) :
    chkDupField S = .ok () ↔ ∀ st ∈ S.structs, (st.fields.map (·.name)).Nodup := by
  simp only [chkDupField, firstFail_ok, List.all_eq_true, decide_eq_true_eq, forall_count_map_nodup]

theorem chkDupEnumName_ok (S : Schema) :
    chkDupEnumName S = .ok () ↔ ∀ e ∈ S.enums, (e.enumeration.map (·.name)).Nodup := by
  simp only [chkDupEnumName, firstFail_ok, List.all_eq_true, decide_eq_true_eq, forall_count_map_nodup]

theorem chkDupEnumValue_ok (S : Schema) :
    chkDupEnumValue S = .ok () ↔ ∀ e ∈ S.enums, (e.enumeration.map (·.value)).Nodup := by
  simp only [chkDupEnumValue, firstFail_ok, List.all_eq_true, decide_eq_true_eq, forall_count_map_nodup]

theorem chkDupImpl_ok (S : Schema) : chkDupImpl S = .ok () ↔ (implKeys S).Nodup := by
  simp only [chkDupImpl, firstFail_ok, decide_eq_true_eq]
  exact forall_count_map_nodup S.impls _

theorem chkDupType_ok (S : Schema) : chkDupType S = .ok () ↔ (typeNames S).Nodup := by
  simp only [chkDupType, firstFail_ok, decide_eq_true_eq, all_count_le_one_iff_nodup]

theorem chkServices_ok (S : Schema) :
    chkServices S = .ok () ↔
      ∀ d ∈ S.devices, ∀ l, d.services = some l → ∀ s ∈ l, s ∈ serviceNames S := by
  rw [chkServices, firstFail_ok]
  refine forall₂_congr fun d _ => ?_
  cases d.services with
  | none => exact iff_of_true rfl nofun
  | some l => simp only [List.all_eq_true, List.contains_iff_mem, Option.some.injEq, forall_eq']

theorem chkImplStruct_ok (S : Schema) :
    chkImplStruct S = .ok () ↔ ∀ i ∈ S.impls, (S.getStruct i.type).isSome := by
  rw [chkImplStruct, firstFail_ok]

/-- the shape of the two checks that concern CAN bindings only -/
theorem firstFail_can_ok (ok : Impl → Bool) (r : Rule) (is : List Impl) :
    firstFail (fun i => !(i.protocol == "can") || ok i) r is = .ok () ↔
      ∀ i ∈ is, i.protocol = "can" → ok i = true := by
  simp only [firstFail_ok, Bool.or_eq_true, Bool.not_eq_true', beq_eq_false_iff_ne, ne_eq,
    Decidable.imp_iff_not_or]

theorem chkDupCanId_ok (S : Schema) : chkDupCanId S = .ok () ↔ (canIdKeys S).Nodup := by
  rw [chkDupCanId, firstFail_can_ok, canIdKeys, ← forall_count_map_nodup]
  simp only [List.mem_filter, decide_eq_true_eq, beq_iff_eq, and_imp]

theorem chkImplSize_ok (S : Schema) (fuel : Nat) :
    chkImplSize S fuel = .ok () ↔
      ∀ i ∈ S.impls, i.protocol = "can" → ∃ n, implBits S fuel i = some n ∧ n ≤ 64 := by
  rw [chkImplSize, firstFail_can_ok]
  refine forall₂_congr fun i _ => imp_congr_right fun _ => ?_
  cases implBits S fuel i with
  | none => exact iff_of_false nofun nofun
  | some n => simp only [decide_eq_true_eq, Option.some.injEq, exists_eq_left']

theorem chkWidths_ok (S : Schema) : chkWidths S = .ok () ↔ WidthsOk S := by
  simp only [chkWidths, WidthsOk, firstFail_ok, List.all_eq_true]

theorem chkServiceRpc_ok (S : Schema) : chkServiceRpc S = .ok () ↔ CppOk S := by
  simp only [chkServiceRpc, firstFail_ok, serviceRpcOk, Bool.and_eq_true, decide_eq_true_eq,
    List.all_eq_true]
  constructor
  · intro h
    exact {
      names := (forall_count_map_nodup S.services (·.name)).mp fun sv hsv => (h sv hsv).1.1.1
      ids := (forall_count_map_nodup S.services (·.id)).mp fun sv hsv => (h sv hsv).1.1.2
      idRange := fun sv hsv => (h sv hsv).1.2
      methodNames := fun sv hsv =>
        (forall_count_map_nodup sv.methods (·.name)).mp fun m hm => ((h sv hsv).2 m hm).1.1.1.1
      methodIds := fun sv hsv =>
        (forall_count_map_nodup sv.methods (·.id)).mp fun m hm => ((h sv hsv).2 m hm).1.1.1.2
      methodIdRange := fun sv hsv m hm => ((h sv hsv).2 m hm).1.1.2
      payloads := fun sv hsv m hm => ⟨((h sv hsv).2 m hm).1.2, ((h sv hsv).2 m hm).2⟩ }
  · intro c sv hsv
    refine ⟨⟨⟨?_, ?_⟩, c.idRange sv hsv⟩, fun m hm => ⟨⟨⟨⟨?_, ?_⟩, c.methodIdRange sv hsv m hm⟩, (c.payloads sv hsv m hm).1⟩, (c.payloads sv hsv m hm).2⟩⟩
    · exact (forall_count_map_nodup S.services (·.name)).mpr c.names sv hsv
    · exact (forall_count_map_nodup S.services (·.id)).mpr c.ids sv hsv
    · exact (forall_count_map_nodup sv.methods (·.name)).mpr (c.methodNames sv hsv) m hm
    · exact (forall_count_map_nodup sv.methods (·.id)).mpr (c.methodIds sv hsv) m hm

theorem seq_ok (a b : Except Rule Unit) :
    (do a; b) = .ok () ↔ a = .ok () ∧ b = .ok () := by
  cases a with
  | error e => exact iff_of_false nofun (fun h => nomatch h.1)
  | ok u => exact (and_iff_right rfl).symm

/-- **general verifier**: succeeds exactly on well-formed schemas -/
theorem verify_iff_general (fuel : Nat) (S : Schema) :
    verifyModel .general fuel S = .ok () ↔ WellFormed S := by
  simp only [verifyModel, seq_ok, chkEmptyStruct_ok, chkDupField_ok, chkDupEnumName_ok,
    chkDupEnumValue_ok, chkDupImpl_ok, chkDupType_ok, chkServices_ok]
  constructor
  · rintro ⟨a, b, c, d, e, t, sv⟩; exact ⟨t, e, b, a, c, d, sv⟩
  · exact fun w => ⟨w.nonempty, w.fields, w.enumNames, w.enumValues, w.impls, w.types, w.services⟩

/-- **with the DBC plug-in's checks** -/
theorem verify_iff_dbc (fuel : Nat) (S : Schema) :
    verifyModel .dbc fuel S = .ok () ↔ WellFormed S ∧ DbcOk S := by
  simp only [verifyModel, seq_ok, chkEmptyStruct_ok, chkDupField_ok, chkDupEnumName_ok,
    chkDupEnumValue_ok, chkDupImpl_ok, chkDupType_ok, chkServices_ok, chkImplStruct_ok,
    chkDupCanId_ok]
  constructor
  · rintro ⟨a, b, c, d, e, i, k, t, sv⟩; exact ⟨⟨t, e, b, a, c, d, sv⟩, i, k⟩
  · exact fun h => ⟨h.1.nonempty, h.1.fields, h.1.enumNames, h.1.enumValues, h.1.impls, h.2.bound, h.2.ids,
      h.1.types, h.1.services⟩

/-- **with the C plug-in's checks** -/
theorem verify_iff_c (fuel : Nat) (S : Schema) :
    verifyModel .canC fuel S = .ok () ↔ WellFormed S ∧ COk S fuel := by
  simp only [verifyModel, seq_ok, chkEmptyStruct_ok, chkDupField_ok, chkDupEnumName_ok,
    chkDupEnumValue_ok, chkDupImpl_ok, chkDupType_ok, chkServices_ok, chkImplStruct_ok,
    chkImplSize_ok]
  constructor
  · rintro ⟨a, b, c, d, e, i, k, t, sv⟩; exact ⟨⟨t, e, b, a, c, d, sv⟩, i, k⟩
  · exact fun h => ⟨h.1.nonempty, h.1.fields, h.1.enumNames, h.1.enumValues, h.1.impls, h.2.bound, h.2.size,
      h.1.types, h.1.services⟩

/-- what the C plug-in's verdict says of one CAN binding: it has a layout, of at most 64 bits -/
theorem verify_c_fits {S : Schema} {fuel : Nat} {i : Impl} (h : verifyModel .canC fuel S = .ok ())
    (hi : i ∈ S.impls) (hc : i.protocol = "can") : ∃ r, generate S true fuel i = some r ∧ r.2 ≤ 64 := by
  obtain ⟨n, hn, hle⟩ := ((verify_iff_c fuel S).mp h).2.size i hi hc
  obtain ⟨r, hr, rfl⟩ := Option.map_eq_some_iff.mp hn
  exact ⟨r, hr, hle⟩

/-- **with the C++ plug-in's checks** (categories `field` and `service`, added with the fixes
6f85ba7 and 35b0f7d) -/
theorem verify_iff_cpp (fuel : Nat) (S : Schema) :
    verifyModel .cpp fuel S = .ok () ↔ WellFormed S ∧ WidthsOk S ∧ CppOk S := by
  simp only [verifyModel, seq_ok, chkEmptyStruct_ok, chkDupField_ok, chkDupEnumName_ok,
    chkDupEnumValue_ok, chkDupImpl_ok, chkDupType_ok, chkServices_ok, chkServiceRpc_ok,
    chkWidths_ok]
  constructor
  · rintro ⟨a, b, x, c, d, e, t, k, sv⟩; exact ⟨⟨t, e, b, a, c, d, sv⟩, x, k⟩
  · exact fun h => ⟨h.1.nonempty, h.1.fields, h.2.1, h.1.enumNames, h.1.enumValues, h.1.impls, h.1.types,
      h.2.2, h.1.services⟩

/-- `S'` lists the same declarations as `S`, each list in some other order -/
structure SchemaPerm (S S' : Schema) : Prop where
  structs : S.structs.Perm S'.structs
  enums : S.enums.Perm S'.enums
  impls : S.impls.Perm S'.impls
  services : S.services.Perm S'.services
  devices : S.devices.Perm S'.devices

theorem SchemaPerm.symm {S S' : Schema} (h : SchemaPerm S S') : SchemaPerm S' S :=
  ⟨h.structs.symm, h.enums.symm, h.impls.symm, h.services.symm, h.devices.symm⟩

theorem SchemaPerm.getStruct_isSome {S S' : Schema} (p : SchemaPerm S S') {n : String}
    (h : (S.getStruct n).isSome) : (S'.getStruct n).isSome := by
  rw [Schema.getStruct, List.find?_isSome] at h ⊢
  exact h.imp fun _ hst => ⟨p.structs.mem_iff.mp hst.1, hst.2⟩

theorem WellFormed.perm {S S' : Schema} (p : SchemaPerm S S') (w : WellFormed S) : WellFormed S' where
  types := (((p.structs.map _).append (p.enums.map _)).nodup_iff (l₁ := typeNames S)).mp w.types
  impls := ((p.impls.map _).nodup_iff (l₁ := implKeys S)).mp w.impls
  fields st hst := w.fields st (p.structs.mem_iff.mpr hst)
  nonempty st hst := w.nonempty st (p.structs.mem_iff.mpr hst)
  enumNames e he := w.enumNames e (p.enums.mem_iff.mpr he)
  enumValues e he := w.enumValues e (p.enums.mem_iff.mpr he)
  services d hd l hl s hs :=
    ((p.services.map _).mem_iff (l₁ := serviceNames S)).mp (w.services d (p.devices.mem_iff.mpr hd) l hl s hs)

theorem DbcOk.perm {S S' : Schema} (p : SchemaPerm S S') (d : DbcOk S) : DbcOk S' where
  bound i hi := p.getStruct_isSome (d.bound i (p.impls.mem_iff.mpr hi))
  ids := (((p.impls.filter _).map _).nodup_iff (l₁ := canIdKeys S)).mp d.ids

theorem WidthsOk.perm {S S' : Schema} (p : SchemaPerm S S') (h : WidthsOk S) : WidthsOk S' :=
  fun st hst => h st (p.structs.mem_iff.mpr hst)

theorem CppOk.perm {S S' : Schema} (p : SchemaPerm S S') (c : CppOk S) : CppOk S' := by
  have mem : ∀ sv, sv ∈ S'.services → sv ∈ S.services := fun sv h => p.services.mem_iff.mpr h
  exact {
    names := (p.services.map _).nodup_iff.mp c.names
    ids := (p.services.map _).nodup_iff.mp c.ids
    idRange := fun sv h => c.idRange sv (mem sv h)
    methodNames := fun sv h => c.methodNames sv (mem sv h)
    methodIds := fun sv h => c.methodIds sv (mem sv h)
    methodIdRange := fun sv h => c.methodIdRange sv (mem sv h)
    payloads := fun sv h m hm =>
      (c.payloads sv (mem sv h) m hm).imp p.getStruct_isSome p.getStruct_isSome }

/-! the C check set: the packed size of a binding does not depend on declaration order
either, because type names are unique: the two schemas give every name the same declaration,
and the layout depends on nothing else (`generate_twin`) -/

theorem SchemaPerm.twin {S S' : Schema} (p : SchemaPerm S S') (w : WellFormed S) :
    (∀ n, S.getStruct n = S'.getStruct n) ∧ (∀ n, S.getEnum n = S'.getEnum n) :=
  have hn := List.nodup_append.mp w.types
  ⟨fun n => find?_key_perm (fun st : Struct => st.name) p.structs hn.1 n,
    fun n => find?_key_perm (fun e : Enum => e.name) p.enums hn.2.1 n⟩

theorem COk.perm {S S' : Schema} (fuel : Nat) (p : SchemaPerm S S') (w : WellFormed S)
    (d : COk S fuel) : COk S' fuel := by
  obtain ⟨hs, he⟩ := p.twin w
  have ht : Twin S S' := ⟨fun n => congrArg _ (hs n), he⟩
  constructor
  · intro i hi
    rw [← hs]; exact d.bound i (p.impls.mem_iff.mpr hi)
  · intro i hi hc
    rw [implBits, ← generate_twin S S' true fuel i ht]; exact d.size i (p.impls.mem_iff.mpr hi) hc

/-- the verdict does not depend on declaration order, whatever the check set -/
theorem verify_perm (cs : CheckSet) (fuel : Nat) {S S' : Schema} (p : SchemaPerm S S') :
    verifyModel cs fuel S = .ok () ↔ verifyModel cs fuel S' = .ok () := by
  suffices h : ∀ {A B}, SchemaPerm A B → verifyModel cs fuel A = .ok () → verifyModel cs fuel B = .ok ()
    from ⟨h p, h p.symm⟩
  intro A B q
  cases cs
  · rw [verify_iff_general, verify_iff_general]; exact .perm q
  · rw [verify_iff_dbc, verify_iff_dbc]; exact fun h => ⟨h.1.perm q, h.2.perm q⟩
  · rw [verify_iff_c, verify_iff_c]; exact fun h => ⟨h.1.perm q, h.2.perm fuel q h.1⟩
  · rw [verify_iff_cpp, verify_iff_cpp]; exact fun h => ⟨h.1.perm q, h.2.1.perm q, h.2.2.perm q⟩

end Fcp
