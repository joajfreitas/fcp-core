import FcpModel.PyBufLemmas
import FcpModel.WireTrunc
/-!
# CppCodec: the C++-specific parts of the generated code

The static codec (`fcp.h.j2` over `buffer.h` / `decoders.h`) composes wrapper classes over
the type tree exactly as `Wire.enc` / `Wire.dec` do; what is specific to C++ and modelled
here is: the carrier type chosen for an N-bit integer, the bit loop of `PushWord` on a signed
carrier, the sign extension of `GetWord`, the cast back to the carrier, the width of an enum,
the run-time (reflection-loaded) codec of `DynamicSchema`, as it is and as it was before its encoder
was repaired, and the CAN frame wrapper.
-/
namespace Fcp.Cpp

/-- `_to_highest_power_of_two` on the supported widths (tied to the Python function, which
goes through float `log2`, by exhaustive comparison on 1..64 on every run) -/
def carrier (n : Nat) : Nat :=
  if n ≤ 8 then 8 else if n ≤ 16 then 16 else if n ≤ 32 then 32 else 64

theorem carrier_ge (n : Nat) (h : n ≤ 64) : n ≤ carrier n ∧ (carrier n = 8 ∨ carrier n = 16 ∨ carrier n = 32 ∨ carrier n = 64) := by
  unfold carrier
  split
  · exact ⟨‹_›, .inl rfl⟩
  split
  · exact ⟨‹_›, .inr (.inl rfl)⟩
  split
  · exact ⟨‹_›, .inr (.inr (.inl rfl))⟩
  · exact ⟨h, .inr (.inr (.inr rfl))⟩

/-- enums use their minimal bit width: `2^(b-1) ≤ max < 2^b` -/
theorem enumBits_minimal (e : Enum) (b : Nat) (h : e.packedSize = some b) (hm : 2 ≤ e.maxValue) :
    (2 : Int) ^ (b - 1) ≤ e.maxValue ∧ e.maxValue < (2 : Int) ^ b := by
  unfold Enum.packedSize at h
  simp only at h
  split at h
  · cases h
  · split at h
    · omega
    · simp only [Option.some.injEq] at h
      subst h
      have hn : e.maxValue.toNat ≠ 0 := by omega
      have h1 := Nat.log2_self_le hn
      have h2 := @Nat.lt_log2_self e.maxValue.toNat
      have hc : ((e.maxValue.toNat : Nat) : Int) = e.maxValue := Int.toNat_of_nonneg (by omega)
      simp only [Nat.add_sub_cancel]
      constructor
      · rw [← hc]; exact_mod_cast h1
      · rw [← hc]; exact_mod_cast h2

/-- `PushWord<T, Size>` on a (possibly signed) carrier value: `(tmp >> i) & 1` for `i < Size` -/
def pushBits (v : Int) (size : Nat) : Bits := intBitsFrom v 0 size

/-- the bit loop writes the two's-complement bits of the value, whatever the carrier's sign -/
theorem pushBits_eq (v : Int) (size : Nat) : pushBits v size = natBits size (toTwos size v) :=
  intBitsFrom_eq size v

/-- `GetWord(bitlength, sign)` after the bit loop collected `r`: the sign extension
`(result ^ mask) - mask` in `uint64_t` arithmetic, skipped for 64-bit fields -/
def getWord (n : Nat) (sign : Bool) (r : Nat) : Nat :=
  if sign && decide (r / 2 ^ (n - 1) = 1) && !decide (n = 64) then
    ((r ^^^ 2 ^ (n - 1)) + 2 ^ 64 - 2 ^ (n - 1)) % 2 ^ 64
  else r

/-- `static_cast<CarrierType>(word)` for a signed carrier of `c` bits -/
def castSigned (c : Nat) (w : Nat) : Int := ofTwos c (w % 2 ^ c)

theorem xor_msb (r k : Nat) (h : r / 2 ^ k = 1) : r ^^^ 2 ^ k = r % 2 ^ k := by
  have hp : 0 < 2 ^ k := Nat.pow_pos (by omega)
  rw [← Nat.div_add_mod (r ^^^ 2 ^ k) (2 ^ k), Nat.xor_div_two_pow, Nat.xor_mod_two_pow, h,
    Nat.div_self hp, Nat.mod_self, Nat.xor_self, Nat.xor_zero, Nat.mul_zero, Nat.zero_add]

/-- `GetWord` returns the field sign-extended to the 64 bits of its `uint64_t`: the XOR/subtract
turns a set top bit `2^(n-1)` into `2^64 - 2^(n-1)` -/
theorem getWord_sext (n r : Nat) (h1 : 1 ≤ n) (h2 : n ≤ 64) (hr : r < 2 ^ n) :
    getWord n true r = toTwos 64 (ofTwos n r) := by
  by_cases h64 : n = 64
  · -- the 64-bit exception: no extension, the word is its own two's complement
    subst h64
    rw [toTwos_ofTwos 64 r hr]
    simp [getWord]
  obtain ⟨k, rfl⟩ : ∃ k, n = k + 1 := ⟨n - 1, by omega⟩
  have hpn : 2 ^ (k + 1) = 2 * 2 ^ k := Nat.pow_succ'
  have hlt : 2 ^ (k + 1) < 2 ^ 64 := Nat.pow_lt_pow_right (by omega) (by omega)
  simp only [getWord, ofTwos, Nat.add_sub_cancel, Bool.true_and, h64, decide_false, Bool.not_false,
    Bool.and_true, decide_eq_true_eq]
  by_cases hm : r < 2 ^ k
  · rw [if_neg (by rw [Nat.div_eq_of_lt hm]; omega), if_neg (by omega)]
    exact (toTwos_eq 0 (by omega) (by omega)).symm
  · have hd : r / 2 ^ k = 1 := Nat.div_eq_of_lt_le (by omega) (by omega)
    have hdm := Nat.div_add_mod r (2 ^ k)
    rw [hd] at hdm
    have hc := natCast_two_pow k
    rw [if_pos hd, if_pos (by omega), xor_msb r k hd]
    exact (toTwos_eq_mod 1 (by omega)).symm

/-- **sign extension is correct**: for every field width `1 ≤ n ≤ 64` read into a signed
carrier of `c ≥ n` bits, `GetWord` followed by the cast returns the two's-complement value of
the `n` bits read -/
theorem getWord_signext (n c : Nat) (r : Nat) (h1 : 1 ≤ n) (h2 : n ≤ c) (h3 : c ≤ 64) (hr : r < 2 ^ n) :
    castSigned c (getWord n true r) = ofTwos n r := by
  rw [castSigned, getWord_sext n r h1 (by omega) hr, toTwos_mod_two_pow h3]
  exact ofTwos_toTwos c (by omega) _ (inRangeS_mono h2 (ofTwos_inRange n h1 r hr))

/-- hence a signed field round-trips through `PushWord` / `GetWord` / cast -/
theorem signed_roundtrip (n c : Nat) (v : Int) (h1 : 1 ≤ n) (h2 : n ≤ c) (h3 : c ≤ 64) (hv : inRangeS n v) :
    castSigned c (getWord n true (bitsNat (pushBits v n))) = v := by
  rw [pushBits_eq, bitsNat_natBits _ _ (toTwos_lt n v), getWord_signext n c _ h1 h2 h3 (toTwos_lt n v)]
  exact ofTwos_toTwos n (by omega) v hv

/-- widths the generator supports: 1..64 for signed, 0..64 otherwise -/
def Widths : Ty → Bool
  | .uint n => n ≤ 64
  | .sint n => 1 ≤ n && n ≤ 64
  | .enum b => b ≤ 64
  | .arr t _ => Widths t
  | .dyn t => Widths t
  | .opt t => Widths t
  | .field _ _ t r => Widths t && Widths r
  | _ => true

def cppEncList (e : Val → Bits) : Val → Bits
  | .cons v vs => e v ++ cppEncList e vs
  | _ => []

/-- `Encode` of the generated structs: every scalar goes through `PushWord` on its carrier -/
def cppEnc : Ty → Val → Bits
  | .uint n, .int i => pushBits i n
  | .sint n, .int i => pushBits i n
  | .f32, .int i => pushBits i 32
  | .f64, .int i => pushBits i 64
  | .enum b, .int i => pushBits i b
  | .str, .str cs => pushBits cs.length 32 ++ (cs.map fun (c : Nat) => pushBits (c : Int) 8).flatten
  | .arr t _, v => cppEncList (cppEnc t) v
  | .dyn t, v => pushBits (vlen v) 32 ++ cppEncList (cppEnc t) v
  | .opt _, .none => pushBits 0 8
  | .opt t, .some v => pushBits 1 8 ++ cppEnc t v
  | .field _ _ t rest, .cons v vs => cppEnc t v ++ cppEnc rest vs
  | _, _ => []

/-- one scalar read: `GetWord(n, sign)` and the cast to the carrier -/
def cppRead (car : Nat → Nat) (n : Nat) (sign : Bool) (bs : Bits) : Option (Val × Bits) :=
  (readN n bs).map fun (w, r) =>
    (.int (if sign then castSigned (car n) (getWord n true w) else (getWord n false w : Nat)), r)

/-- `Decode` over one shared bit cursor, signed fields cast to the carrier `car n` (on inputs
long enough; what the real code does when bytes are missing is outside the properties and
not modelled) -/
def cppDecWith (car : Nat → Nat) : Ty → Bits → Option (Val × Bits)
  | .uint n, bs => cppRead car n false bs
  | .sint n, bs => cppRead car n true bs
  | .f32, bs => cppRead car 32 false bs
  | .f64, bs => cppRead car 64 false bs
  | .enum b, bs => cppRead car b false bs
  | .str, bs => match readN 32 bs with
    | none => none
    | some (n, r) => match decChars n r with
      | none => none
      | some (cs, r') => if utf8Valid cs then some (.str cs, r') else none
  | .arr t n, bs => decList (cppDecWith car t) n bs
  | .dyn t, bs => match readN 32 bs with
    | none => none
    | some (n, r) => decList (cppDecWith car t) n r
  | .opt t, bs => match readN 8 bs with
    | none => none
    | some (f, r) => if f = 0 then some (.none, r) else (cppDecWith car t r).map fun (v, r') => (.some v, r')
  | .unit, bs => some (.nil, bs)
  | .field _ _ t rest, bs => match cppDecWith car t bs with
    | none => none
    | some (v, r) => (cppDecWith car rest r).map fun (vs, r') => (.cons v vs, r')

/-- the statically generated decoder: carrier chosen per width -/
def cppDec : Ty → Bits → Option (Val × Bits) := cppDecWith carrier

/-- the run-time decoder (`DynamicSchema::_Decode`): same cursor, signed fields through
`static_cast<std::int64_t>` -/
def dynDec : Ty → Bits → Option (Val × Bits) := cppDecWith (fun _ => 64)

/-- on a natural number the bit loop writes its low bits, whatever its size -/
theorem pushBits_nat (x n : Nat) : pushBits (x : Int) n = natBits n x := by
  rw [pushBits_eq, ← natBits_mod n x]; rfl

theorem cppChars_eq (cs : List Nat) : (cs.map fun (c : Nat) => pushBits (c : Int) 8).flatten = encChars cs := by
  simp only [pushBits_nat]; rfl

theorem _root_.Fcp.Word.cppEnc_eq {t n s} (h : Word t n s) (i : Int) : cppEnc t (.int i) = pushBits i n := by
  cases h <;> rfl

/-- **the generated encoder writes the canonical bits** -/
theorem cppEnc_eq (t : Ty) (v : Val) (h : wf t v = true) : cppEnc t v = enc t v :=
  wf_induct (P := fun t v => cppEnc t v = enc t v)
    (word := fun i hw hi => by rw [hw.cppEnc_eq, hw.enc_eq, pushBits_eq, wordOf_eq_toTwos hi])
    (str := fun cs _ _ => append_congr (pushBits_nat _ 32) (cppChars_eq cs))
    (nil := fun _ => rfl)
    (cons := fun _ _ _ _ _ _ ihx ihxs => append_congr ihx ihxs)
    (dyn := fun _ _ _ _ ih => append_congr (pushBits_nat _ 32) ih)
    (none := fun _ => pushBits_nat 0 8)
    (some := fun _ _ _ ih => append_congr (pushBits_nat 1 8) ih)
    (unit := rfl)
    (field := fun _ _ _ _ _ _ _ _ ihv ihvs => append_congr ihv ihvs)
    t v h

theorem getWord_unsigned (n r : Nat) : getWord n false r = r := by simp [getWord]

theorem cppRead_unsigned (car : Nat → Nat) (n : Nat) (bs : Bits) :
    cppRead car n false bs = (readN n bs).map fun (w, r) => (.int w, r) := by
  unfold cppRead; simp [getWord_unsigned]

theorem cppRead_signed (car : Nat → Nat) (n : Nat) (h1 : 1 ≤ n) (hc : n ≤ car n) (hc64 : car n ≤ 64) (bs : Bits) :
    cppRead car n true bs = (readN n bs).map fun (w, r) => (.int (ofTwos n w), r) := by
  unfold cppRead
  cases h : readN n bs with
  | none => rfl
  | some p =>
    obtain ⟨w, r⟩ := p
    have hw := (readN_some h).2
    simp [getWord_signext n (car n) w h1 hc hc64 hw]

/-- a cursor decoder is the canonical decoder on every supported type, whatever carrier
(wide enough, at most 64 bits) the signed fields are cast to.  An equality of functions, so that
it rewrites under `decList` and the `match`es as it stands. -/
theorem cppDecWith_eq (car : Nat → Nat) (hcar : ∀ n, 1 ≤ n → n ≤ 64 → n ≤ car n ∧ car n ≤ 64) (t : Ty) :
    Widths t = true → cppDecWith car t = dec t := by
  -- after rewriting, the two sides differ only in which definition's compiled `match` they name: `rfl`
  induction t with
  | sint n =>
    intro h
    simp only [Widths, Bool.and_eq_true, decide_eq_true_eq] at h
    funext bs
    simp only [cppDecWith, cppRead_signed car n h.1 (hcar n h.1 h.2).1 (hcar n h.1 h.2).2]; rfl
  | arr t n ih | dyn t ih | opt t ih => intro h; funext bs; simp only [cppDecWith, ih h]; rfl
  | field nm id t r iht ihr =>
    intro h
    simp only [Widths, Bool.and_eq_true] at h
    funext bs
    simp only [cppDecWith, iht h.1, ihr h.2]; rfl
  | str | unit => intro _; rfl
  | _ => intro _; funext bs; simp only [cppDecWith, cppRead_unsigned]; rfl

/-- **the generated decoder is the canonical decoder** on every supported type -/
theorem cppDec_eq (t : Ty) (h : Widths t = true) : cppDec t = dec t :=
  cppDecWith_eq carrier (fun n _ h2 => by
    obtain ⟨hc, hc'⟩ := carrier_ge n h2
    exact ⟨hc, by rcases hc' with h | h | h | h <;> omega⟩) t h

/-- **the run-time decoder is the canonical decoder** too -/
theorem dynDec_eq (t : Ty) (h : Widths t = true) : dynDec t = dec t :=
  cppDecWith_eq (fun _ => 64) (fun _ _ h2 => ⟨h2, Nat.le_refl _⟩) t h

/-! ## the run-time (reflection-loaded) encoder

Since the repair recorded in known_findings.json (`dynamic-encode-not-bit-packed`, fixed) every
`Encode*` member of `DynamicSchema` writes into one `Buffer` passed by reference: the same
composition as the generated structs, every scalar through `PushWord` on a 64-bit carrier. -/

def dynEncList (e : Val → Bits) : Val → Bits
  | .cons v vs => e v ++ dynEncList e vs
  | _ => []

/-- `DynamicSchema::_Encode` into the shared buffer -/
def dynEnc : Ty → Val → Bits
  | .uint n, .int i => pushBits i n
  | .sint n, .int i => pushBits i n
  | .f32, .int i => pushBits i 32
  | .f64, .int i => pushBits i 64
  | .enum b, .int i => pushBits i b
  | .str, .str cs => pushBits cs.length 32 ++ (cs.map fun (c : Nat) => pushBits (c : Int) 8).flatten
  | .arr t _, v => dynEncList (dynEnc t) v
  | .dyn t, v => pushBits (vlen v) 32 ++ dynEncList (dynEnc t) v
  | .opt _, .none => pushBits 0 8
  | .opt t, .some v => pushBits 1 8 ++ dynEnc t v
  | .field _ _ t rest, .cons v vs => dynEnc t v ++ dynEnc rest vs
  | _, _ => []

theorem dynEncList_eq_cpp : dynEncList = cppEncList := by
  funext e v
  induction v with
  | cons x xs _ ih => simp only [dynEncList, cppEncList, ih]
  | _ => rfl

/-- **the run-time encoder is the generated encoder**, for every type and every value -/
theorem dynEnc_eq_cppEnc (t : Ty) : dynEnc t = cppEnc t := by
  induction t with
  | arr t n ih | dyn t ih => funext v; simp only [dynEnc, cppEnc, ih, dynEncList_eq_cpp]
  | opt t ih => funext v; cases v <;> simp only [dynEnc, cppEnc, ih]
  | field nm id t r iht ihr => funext v; cases v <;> simp only [dynEnc, cppEnc, iht, ihr]
  | _ => funext v; cases v <;> rfl

/-! ### the encoder before the repair: whole bytes per piece (kept as the record of the defect) -/

def oldDynEncList (e : Val → List Nat) : Val → List Nat
  | .cons v vs => e v ++ oldDynEncList e vs
  | _ => []

/-- `DynamicSchema::_Encode` before the repair: every field, element, length prefix and flag is encoded into a
fresh `Buffer` whose bytes are appended -/
def oldDynEnc : Ty → Val → List Nat
  | .uint n, .int i => pack (natBits n i.toNat)
  | .sint n, .int i => pack (natBits n (toTwos n i))
  | .f32, .int i => pack (natBits 32 i.toNat)
  | .f64, .int i => pack (natBits 64 i.toNat)
  | .enum b, .int i => pack (natBits b i.toNat)
  | .str, .str cs => pack (natBits 32 cs.length ++ encChars cs)
  | .arr t _, v => oldDynEncList (oldDynEnc t) v
  | .dyn t, v => pack (natBits 32 (vlen v)) ++ oldDynEncList (oldDynEnc t) v
  | .opt _, .none => pack (natBits 8 0)
  | .opt t, .some v => pack (natBits 8 1) ++ oldDynEnc t v
  | .field _ _ t rest, .cons v vs => oldDynEnc t v ++ oldDynEnc rest vs
  | _, _ => []

/-- every scalar of the type occupies a whole number of bytes -/
def ByteGranular : Ty → Bool
  | .uint n => n % 8 == 0
  | .sint n => n % 8 == 0
  | .enum b => b % 8 == 0
  | .arr t _ => ByteGranular t
  | .dyn t => ByteGranular t
  | .opt t => ByteGranular t
  | .field _ _ t r => ByteGranular t && ByteGranular r
  | _ => true

/-- byte images of whole-byte pieces concatenate: the step of `oldDynEnc_eq` -/
theorem packed_append {a b : Bits} {A B : List Nat} (ha : A = pack a ∧ a.length % 8 = 0)
    (hb : B = pack b ∧ b.length % 8 = 0) : A ++ B = pack (a ++ b) ∧ (a ++ b).length % 8 = 0 := by
  obtain ⟨rfl, ha⟩ := ha
  obtain ⟨rfl, hb⟩ := hb
  exact ⟨(pack_append_aligned a b ha).symm, by rw [List.length_append]; omega⟩

theorem _root_.Fcp.Word.oldDynEnc_eq {t n s} (h : Word t n s) (i : Int) :
    oldDynEnc t (.int i) = pack (enc t (.int i)) := by
  cases h <;> rfl

theorem natBits_aligned {n : Nat} (x : Nat) (h : n % 8 = 0) : (natBits n x).length % 8 = 0 := by
  rw [natBits_length]; exact h

theorem _root_.Fcp.Word.byteGranular {t n s} (h : Word t n s) (hg : ByteGranular t = true) : n % 8 = 0 := by
  cases h with
  | uint n | sint n | enum b => exact eq_of_beq hg
  | f32 | f64 => rfl

/-- before the repair: on byte-granular types the run-time encoder produced exactly
the canonical (= static) bytes, and every encoding is a whole number of bytes -/
theorem oldDynEnc_eq (t : Ty) : ∀ (v : Val), ByteGranular t = true → wf t v = true →
    oldDynEnc t v = pack (enc t v) ∧ (enc t v).length % 8 = 0 := fun v hg h =>
  wf_induct (P := fun t v => ByteGranular t = true →
      oldDynEnc t v = pack (enc t v) ∧ (enc t v).length % 8 = 0)
    (word := fun i hw _ hg =>
      ⟨hw.oldDynEnc_eq i, by rw [hw.enc_eq]; exact natBits_aligned _ (hw.byteGranular hg)⟩)
    (str := fun cs _ _ _ =>
      ⟨rfl, by rw [enc, List.length_append, natBits_length, encChars_length]; omega⟩)
    (nil := fun _ _ => ⟨pack_nil.symm, rfl⟩)
    (cons := fun _ _ _ _ _ _ ihx ihxs hg => packed_append (ihx hg) (ihxs hg))
    (dyn := fun _ _ _ _ ih hg => packed_append ⟨rfl, natBits_aligned _ rfl⟩ (ih hg))
    (none := fun _ _ => ⟨rfl, natBits_aligned _ rfl⟩)
    (some := fun _ _ _ ih hg => packed_append ⟨rfl, natBits_aligned _ rfl⟩ (ih hg))
    (unit := fun _ => ⟨pack_nil.symm, rfl⟩)
    (field := fun _ _ _ _ _ _ _ _ ihv ihvs hg =>
      have hg := Bool.and_eq_true_iff.mp hg
      packed_append (ihv hg.1) (ihvs hg.2))
    t v h hg

structure Binding where
  name : String
  id : Nat
  bus : List Nat      -- character codes of the bus name, any number of them
  ty : Ty
  deriving Repr, DecidableEq, Inhabited

structure Frame where
  bus : List Nat      -- 4 bytes, NUL padded
  sid : Nat
  dlc : Nat
  data : List Nat     -- 8 bytes, zero padded
  deriving Repr, DecidableEq, Inhabited

def pad (n : Nat) (l : List Nat) : List Nat := l ++ List.replicate (n - l.length) 0

/-- the bus tag of a frame as the name it is compared with: up to the first NUL -/
def busName (tag : List Nat) : List Nat := tag.takeWhile (· != 0)

/-- what a frame can carry of a bus name: its first four characters (`std::array<char,4> bus`) -/
def Binding.tag (b : Binding) : List Nat := b.bus.take 4

/-- `Encode(name, json)`: first binding with that name -/
def encodeFrame (bs : List Binding) (name : String) (v : Val) : Option Frame :=
  (bs.find? (·.name == name)).map fun b =>
    { bus := pad 4 b.tag, sid := b.id, dlc := (encBytes b.ty v).length, data := pad 8 (encBytes b.ty v) }

/-- `Decode(frame)`: first binding whose id matches and whose bus name, cut to the tag, is the
frame's tag (since fix 6533a8d; before it the whole name was compared, so a name longer than four
characters never matched its own frames); then the payload -/
def decodeFrame (bs : List Binding) (f : Frame) : Option (String × Val) :=
  match bs.find? (fun b => b.id == f.sid && b.tag == busName f.bus) with
  | none => none
  | some b => (decBytes b.ty f.data).map fun v => (b.name, v)

theorem busName_pad (bus : List Nat) (h : ∀ c ∈ bus, c ≠ 0) (n : Nat) : busName (pad n bus) = bus := by
  rw [busName, pad, List.takeWhile_append_of_pos fun c hc => bne_iff_ne.mpr (h c hc),
    List.takeWhile_replicate, if_neg (by decide), List.append_nil]

/-- the bindings a CAN schema is generated from: names distinct, (id, bus) keys distinct,
bus names free of NUL -/
structure BindingsOk (bs : List Binding) : Prop where
  names : bs.Pairwise (fun a b => a.name ≠ b.name)
  keys : bs.Pairwise (fun a b => ¬ (a.id = b.id ∧ a.tag = b.tag))
  bus : ∀ b ∈ bs, ∀ c ∈ b.bus, c ≠ 0

end Fcp.Cpp
