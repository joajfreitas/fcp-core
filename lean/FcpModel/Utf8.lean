/-!
# Utf8: which byte strings are texts

The Python codec writes a string as its UTF-8 bytes and reads it back with the strict UTF-8
decoder (`bytes.decode("utf-8")`: no overlong forms, no surrogates, nothing above U+10FFFF); the
C++ codecs carry the bytes of a `std::string` whose JSON form is UTF-8 as well.  `utf8Valid` is
that decoder's acceptance condition on a list of byte values.
-/
namespace Fcp

/-- the decoder as a state machine over the bytes: `k` continuation bytes are still owed, the next
one must lie in `lo..hi` (only the first continuation byte of a sequence has special bounds:
no overlong forms, no surrogates, nothing above U+10FFFF — Unicode Standard, table 3-7) -/
def utf8Go : Nat → Nat → Nat → List Nat → Bool
  | k, _, _, [] => k == 0
  | 0, _, _, b :: r =>
    if b < 0x80 then utf8Go 0 0 0 r
    else if 0xC2 ≤ b && b ≤ 0xDF then utf8Go 1 0x80 0xBF r
    else if b == 0xE0 then utf8Go 2 0xA0 0xBF r
    else if (0xE1 ≤ b && b ≤ 0xEC) || b == 0xEE || b == 0xEF then utf8Go 2 0x80 0xBF r
    else if b == 0xED then utf8Go 2 0x80 0x9F r
    else if b == 0xF0 then utf8Go 3 0x90 0xBF r
    else if 0xF1 ≤ b && b ≤ 0xF3 then utf8Go 3 0x80 0xBF r
    else if b == 0xF4 then utf8Go 3 0x80 0x8F r
    else false
  | k+1, lo, hi, b :: r => lo ≤ b && b ≤ hi && utf8Go k 0x80 0xBF r

/-- well-formed UTF-8 -/
def utf8Valid (cs : List Nat) : Bool := utf8Go 0 0 0 cs

/- The proofs about `utf8Go` go by its own induction principle (`fun_induction`): one case per row of
the table, with the row's condition as a hypothesis and the call already replaced by the row's
result (`case1` the empty input, `case2`–`case9` the lead-byte rows, `case10` the final `false`,
`case11` a continuation byte).  `split` on the nine-row `if` is avoided throughout: it is very slow
to check. -/

theorem utf8Go_bytes (k lo hi : Nat) (cs : List Nat) (hhi : hi ≤ 0xBF) (h : utf8Go k lo hi cs = true) :
    cs.all (· < 256) = true := by
  fun_induction utf8Go k lo hi cs
  case case1 => rfl
  case case10 => cases h
  all_goals
    -- the row bounds the byte (a lead byte is at most F4, a continuation byte at most `hi`), and
    -- every row hands on an upper bound of at most BF
    rename_i ih
    simp only [List.all_cons, Bool.and_eq_true, Bool.or_eq_true, decide_eq_true_eq, beq_iff_eq] at *
    exact ⟨by omega, ih (by omega) (by simp only [h])⟩

theorem utf8Valid_bytes (cs : List Nat) (h : utf8Valid cs = true) : cs.all (· < 256) = true :=
  utf8Go_bytes 0 0 0 cs (by omega) h

theorem utf8Valid_of_ascii (cs : List Nat) (h : cs.all (· < 128) = true) : utf8Valid cs = true := by
  unfold utf8Valid
  induction cs with
  | nil => rfl
  | cons c cs ih =>
    simp only [List.all_cons, Bool.and_eq_true, decide_eq_true_eq] at h
    rw [utf8Go, if_pos h.1]
    exact ih h.2

/-- once a run has accepted `a`, what follows is judged from the start state -/
theorem utf8Go_append (k lo hi : Nat) (a b : List Nat) (h : utf8Go k lo hi a = true) :
    utf8Go k lo hi (a ++ b) = utf8Valid b := by
  fun_induction utf8Go k lo hi a
  case case1 => rw [beq_iff_eq.1 h]; cases b <;> rfl    -- state 0 ignores the bounds
  case case10 => cases h
  case case11 ih =>
    rw [Bool.and_eq_true] at h
    rw [List.cons_append, utf8Go, h.1, ih h.2]; rfl
  all_goals
    -- the row's condition settles every `if` of the step on `x :: (xs ++ b)` as well
    rename_i ih
    simp only [List.cons_append, utf8Go, *, Bool.false_eq_true, if_true, if_false]

theorem utf8Valid_append (a b : List Nat) (ha : utf8Valid a = true) :
    utf8Valid (a ++ b) = utf8Valid b := utf8Go_append 0 0 0 a b ha

example : utf8Valid [0xC2, 0xB0, 0x43] = true := by decide          -- "°C"
example : utf8Valid [0xE2, 0x82, 0xAC] = true := by decide          -- "€"
example : utf8Valid [0xF0, 0x9F, 0x98, 0x80] = true := by decide    -- U+1F600
example : utf8Valid [0xB0, 0x43] = false := by decide               -- a lone continuation byte
example : utf8Valid [0xC0, 0x80] = false := by decide               -- overlong
example : utf8Valid [0xED, 0xA0, 0x80] = false := by decide         -- surrogate
example : utf8Valid [0xF4, 0x90, 0x80, 0x80] = false := by decide   -- above U+10FFFF

/-! ## every text has valid bytes: the UTF-8 encoding of a list of Unicode scalar values -/

/-- Unicode scalar values: code points without the surrogates -/
def isScalar (c : Nat) : Bool := c < 0xD800 || (0xE000 ≤ c && c < 0x110000)

/-- the UTF-8 bytes of one code point -/
def utf8Enc (c : Nat) : List Nat :=
  if c < 0x80 then [c]
  else if c < 0x800 then [0xC0 + c / 64, 0x80 + c % 64]
  else if c < 0x10000 then [0xE0 + c / 4096, 0x80 + c / 64 % 64, 0x80 + c % 64]
  else [0xF0 + c / 262144, 0x80 + c / 4096 % 64, 0x80 + c / 64 % 64, 0x80 + c % 64]

/-- what `str.encode("utf-8")` yields for a text given as its scalar values -/
def utf8Bytes (cs : List Nat) : List Nat := cs.flatMap utf8Enc

theorem utf8Enc_valid (c : Nat) (h : isScalar c = true) : utf8Valid (utf8Enc c) = true := by
  simp only [isScalar, Bool.or_eq_true, Bool.and_eq_true, decide_eq_true_eq] at h
  unfold utf8Valid
  -- by the length of the encoding.  The lead bytes E0, ED, F0, F4 have a row of their own, which
  -- bounds the second byte: that bound is the bound on `c` (not overlong, no surrogate, at most
  -- U+10FFFF).  For any other lead byte the row is found by arithmetic.
  fun_cases utf8Enc c
  · rw [utf8Go, if_pos ‹_›]; rfl
  · rw [utf8Go]
    simp only [Bool.and_eq_true, Bool.or_eq_true, decide_eq_true_eq, beq_iff_eq]
    rw [if_neg (by omega), if_pos (by omega)]
    simp [utf8Go]; omega
  · by_cases h0 : c / 4096 = 0
    · simp [utf8Go, h0]; omega
    by_cases hD : c / 4096 = 13
    · simp [utf8Go, hD]; omega
    rw [utf8Go]
    simp only [Bool.and_eq_true, Bool.or_eq_true, decide_eq_true_eq, beq_iff_eq]
    rw [if_neg (by omega), if_neg (by omega), if_neg (by omega), if_pos (by omega)]
    simp [utf8Go]; omega
  · by_cases h0 : c / 262144 = 0
    · simp [utf8Go, h0]; omega
    by_cases h4 : c / 262144 = 4
    · simp [utf8Go, h4]; omega
    rw [utf8Go]
    simp only [Bool.and_eq_true, Bool.or_eq_true, decide_eq_true_eq, beq_iff_eq]
    rw [if_neg (by omega), if_neg (by omega), if_neg (by omega), if_neg (by omega), if_neg (by omega),
      if_neg (by omega), if_pos (by omega)]
    simp [utf8Go]; omega

/-- **every text is in the codec's domain**: the UTF-8 bytes of any list of scalar values are valid -/
theorem utf8Bytes_valid (cs : List Nat) (h : cs.all isScalar = true) : utf8Valid (utf8Bytes cs) = true := by
  induction cs with
  | nil => rfl
  | cons c cs ih =>
    rw [List.all_cons, Bool.and_eq_true] at h
    rw [utf8Bytes, List.flatMap_cons, utf8Valid_append _ _ (utf8Enc_valid c h.1)]
    exact ih h.2

example : utf8Bytes [0xB0, 0x43] = [0xC2, 0xB0, 0x43] := by decide
example : utf8Bytes [0x1F600] = [0xF0, 0x9F, 0x98, 0x80] := by decide

end Fcp
