/-!
# Bits: LSB-first bit lists, bytes, two's complement

Shared by every codec model.  Core Lean only.
-/
namespace Fcp

abbrev Bits := List Bool

/-- the `k` low bits of `x`, least significant first -/
def natBits : Nat → Nat → Bits
  | 0, _ => []
  | k+1, x => (x % 2 == 1) :: natBits k (x / 2)

/-- value of an LSB-first bit list -/
def bitsNat : Bits → Nat
  | [] => 0
  | b :: bs => (if b then 1 else 0) + 2 * bitsNat bs

/-- read `k` bits from the front, failing when fewer are present -/
def readN (k : Nat) (bs : Bits) : Option (Nat × Bits) :=
  if (bs.take k).length < k then none else some (bitsNat (bs.take k), bs.drop k)

/-- two's complement of `i` on `n` bits -/
def toTwos (n : Nat) (i : Int) : Nat := (i % (2^n : Int)).toNat

/-- signed reading of an `n`-bit word -/
def ofTwos (n : Nat) (w : Nat) : Int := if 2 * w ≥ 2^n then (w : Int) - 2^n else w

def packAux : Nat → Bits → List Nat
  | 0, _ => []
  | k+1, bs => bitsNat (bs.take 8) :: packAux k (bs.drop 8)

/-- 8 bits per byte, LSB first, zero padding in the last byte -/
def pack (bs : Bits) : List Nat := packAux ((bs.length + 7) / 8) bs

def unpack : List Nat → Bits
  | [] => []
  | b :: bs => natBits 8 b ++ unpack bs

@[simp] theorem natBits_length (k x : Nat) : (natBits k x).length = k := by
  induction k generalizing x with
  | zero => rfl
  | succ k ih => simp [natBits, ih]

theorem natBits_getElem? (k x i : Nat) :
    (natBits k x)[i]? = if i < k then some (x.testBit i) else none := by
  induction k generalizing x i with
  | zero => rfl
  | succ k ih =>
    cases i with
    | zero => by_cases hx : x % 2 = 1 <;> simp [natBits, Nat.testBit_zero, hx]
    | succ i =>
      simp only [natBits, List.getElem?_cons_succ, ih, Nat.add_lt_add_iff_right, Nat.testBit_succ]

theorem bitsNat_lt (l : Bits) : bitsNat l < 2 ^ l.length := by
  induction l with
  | nil => simp [bitsNat]
  | cons b l ih =>
    simp only [bitsNat, List.length_cons, Nat.pow_succ]
    split <;> omega

theorem bitsNat_natBits_mod (k x : Nat) : bitsNat (natBits k x) = x % 2^k := by
  induction k generalizing x with
  | zero => simp [natBits, bitsNat, Nat.mod_one]
  | succ k ih =>
    simp only [natBits, bitsNat]
    rw [ih, Nat.pow_succ, Nat.mul_comm (2 ^ k) 2, Nat.mod_mul]
    by_cases hx : x % 2 = 1 <;> simp [hx] <;> omega

theorem bitsNat_natBits (k x : Nat) (h : x < 2^k) : bitsNat (natBits k x) = x := by
  rw [bitsNat_natBits_mod, Nat.mod_eq_of_lt h]

theorem natBits_full (l : Bits) : natBits l.length (bitsNat l) = l := by
  induction l with
  | nil => rfl
  | cons b l ih =>
    rw [List.length_cons, natBits, bitsNat]
    cases b
    · rw [if_neg Bool.false_ne_true, Nat.zero_add, Nat.mul_mod_right, Nat.mul_div_cancel_left _ (by omega), ih]
      rfl
    · rw [if_pos rfl, Nat.add_mul_mod_self_left, Nat.add_mul_div_left _ _ (by omega), Nat.zero_add, ih]
      rfl

theorem natBits_mod (n x : Nat) : natBits n (x % 2 ^ n) = natBits n x := by
  have := natBits_full (natBits n x)
  rwa [natBits_length, bitsNat_natBits_mod] at this

theorem bitsNat_append (a b : Bits) : bitsNat (a ++ b) = bitsNat a + 2 ^ a.length * bitsNat b := by
  induction a with
  | nil => simp [bitsNat]
  | cons x xs ih =>
    simp only [List.cons_append, bitsNat, ih, List.length_cons, Nat.pow_succ]
    rw [Nat.mul_add, Nat.mul_comm (2 ^ xs.length) 2, Nat.mul_assoc]
    omega

theorem bitsNat_append_false (l : Bits) (j : Nat) : bitsNat (l ++ List.replicate j false) = bitsNat l := by
  rw [bitsNat_append]
  suffices h : bitsNat (List.replicate j false) = 0 by rw [h]; rfl
  induction j with
  | zero => rfl
  | succ j ih => rw [List.replicate_succ, bitsNat, ih]; rfl

theorem bitsNat_take_drop (bits : Bits) (n : Nat) :
    bitsNat bits = bitsNat (bits.take n) + 2 ^ n * bitsNat (bits.drop n) := by
  by_cases h : n ≤ bits.length
  · have := bitsNat_append (bits.take n) (bits.drop n)
    rwa [List.take_append_drop, List.length_take, Nat.min_eq_left h] at this
  · rw [List.take_of_length_le (by omega), List.drop_of_length_le (by omega)]; rfl

theorem bitsNat_take_lt (bits : Bits) (n : Nat) : bitsNat (bits.take n) < 2 ^ n :=
  Nat.lt_of_lt_of_le (bitsNat_lt _) (Nat.pow_le_pow_right (by omega) (List.length_take_le ..))

theorem bitsNat_mod (bits : Bits) (n : Nat) : bitsNat bits % 2 ^ n = bitsNat (bits.take n) := by
  rw [bitsNat_take_drop bits n, Nat.add_mul_mod_self_left, Nat.mod_eq_of_lt (bitsNat_take_lt bits n)]

theorem bitsNat_shiftRight (bits : Bits) (n : Nat) : bitsNat bits >>> n = bitsNat (bits.drop n) := by
  rw [Nat.shiftRight_eq_div_pow, bitsNat_take_drop bits n, Nat.add_mul_div_left _ _ (Nat.pow_pos (by omega)),
    Nat.div_eq_of_lt (bitsNat_take_lt bits n), Nat.zero_add]

theorem readN_eq (k : Nat) (bs : Bits) :
    readN k bs = if bs.length < k then none else some (bitsNat (bs.take k), bs.drop k) := by
  unfold readN
  have : (bs.take k).length < k ↔ bs.length < k := by
    rw [List.length_take]; omega
  by_cases h : bs.length < k
  · rw [if_pos (this.mpr h), if_pos h]
  · rw [if_neg (fun h' => h (this.mp h')), if_neg h]

theorem readN_cons (k : Nat) (b : Bool) (bs : Bits) :
    readN (k+1) (b :: bs) = (readN k bs).map fun (x, r) => (b.toNat + 2 * x, r) := by
  rw [readN_eq, readN_eq]
  simp only [List.length_cons, Nat.add_lt_add_iff_right, List.take_succ_cons, bitsNat,
    List.drop_succ_cons]
  split
  · rfl
  · cases b <;> rfl

theorem readN_natBits (k x : Nat) (rest : Bits) (h : x < 2^k) :
    readN k (natBits k x ++ rest) = some (x, rest) := by
  rw [readN_eq]
  have hl := natBits_length k x
  simp [hl, bitsNat_natBits k x h]

theorem readN_some {k : Nat} {bs : Bits} {w : Nat} {r : Bits} (h : readN k bs = some (w, r)) :
    bs = natBits k w ++ r ∧ w < 2^k := by
  rw [readN_eq] at h
  by_cases hl : bs.length < k
  · rw [if_pos hl] at h; cases h
  · rw [if_neg hl] at h
    obtain ⟨rfl, rfl⟩ := Prod.mk.inj (Option.some.inj h)
    have hf := natBits_full (bs.take k)
    rw [List.length_take, Nat.min_eq_left (by omega)] at hf
    exact ⟨by rw [hf, List.take_append_drop], bitsNat_take_lt bs k⟩

/-- what a successful `readN` says: the word's bits were there, and what follows them is irrelevant -/
theorem readN_some' {k : Nat} {bs : Bits} {w : Nat} {r : Bits} (h : readN k bs = some (w, r)) :
    bs = natBits k w ++ r ∧ ∀ x, readN k (natBits k w ++ x) = some (w, x) :=
  ⟨(readN_some h).1, fun x => readN_natBits k w x (readN_some h).2⟩

theorem readN_some_length {k : Nat} {bs : Bits} {w : Nat} {r : Bits} (h : readN k bs = some (w, r)) :
    bs.length = k + r.length ∧ r = bs.drop k := by
  obtain ⟨rfl, _⟩ := readN_some h
  simp

theorem readN_none {k : Nat} {bs : Bits} : readN k bs = none ↔ bs.length < k := by
  rw [readN_eq]
  split <;> simp_all

def inRangeS (n : Nat) (i : Int) : Prop := -(2^(n-1) : Int) ≤ i ∧ i < 2^(n-1)

/-- omega reads `((2 ^ n : Nat) : Int)` and `(2 : Int) ^ n` as different atoms; this joins them -/
theorem natCast_two_pow (n : Nat) : ((2 ^ n : Nat) : Int) = 2 ^ n := Int.natCast_pow 2 n

theorem toTwos_cast (n : Nat) (i : Int) : ((toTwos n i : Nat) : Int) = i % 2 ^ n :=
  Int.toNat_of_nonneg (Int.emod_nonneg i (Int.ne_of_gt (Int.pow_pos (by omega))))

theorem toTwos_lt (n : Nat) (i : Int) : toTwos n i < 2^n := by
  have := toTwos_cast n i
  have := Int.emod_lt_of_pos i (Int.pow_pos (by omega) : (0 : Int) < 2 ^ n)
  have := natCast_two_pow n
  omega

/-- `toTwos m i` is the residue modulo `2^m` of any natural number congruent to `i` -/
theorem toTwos_eq_mod {m : Nat} {i : Int} {w : Nat} (q : Int) (h : i + q * 2 ^ m = w) :
    toTwos m i = w % 2 ^ m := by
  apply Int.ofNat_inj.mp
  rw [toTwos_cast, Int.natCast_emod, natCast_two_pow, ← h, Int.add_mul_emod_self_right]

theorem toTwos_eq {m : Nat} {i : Int} {w : Nat} (q : Int) (h : i + q * 2 ^ m = w) (hw : w < 2 ^ m) :
    toTwos m i = w :=
  (toTwos_eq_mod q h).trans (Nat.mod_eq_of_lt hw)

theorem toTwos_of_inRange (n : Nat) (i : Int) (h0 : 0 ≤ i) (h1 : i < 2 ^ n) :
    toTwos n i = i.toNat := by
  unfold toTwos
  rw [Int.emod_eq_of_lt h0 h1]

theorem toTwos_mod_two_pow {m n : Nat} (h : m ≤ n) (v : Int) : toTwos n v % 2 ^ m = toTwos m v := by
  apply Int.ofNat_inj.mp
  rw [Int.natCast_emod, toTwos_cast, toTwos_cast, natCast_two_pow]
  exact Int.emod_emod_of_dvd v ⟨2 ^ (n - m), by rw [← Int.pow_add]; congr 1; omega⟩

/-- `Nat.mod_mul_right_div_self` for integers -/
theorem emod_mul_ediv (w : Int) {a : Int} (ha : 0 < a) (b : Int) : w % (a * b) / a = w / a % b := by
  rw [Int.emod_def, Int.emod_def, ← Int.ediv_ediv_of_nonneg (Int.le_of_lt ha), Int.mul_assoc,
    Int.sub_eq_add_neg, ← Int.mul_neg, Int.mul_comm a, Int.add_mul_ediv_right _ _ (Int.ne_of_gt ha),
    ← Int.sub_eq_add_neg]

theorem toTwos_succ_mod (n : Nat) (w : Int) : toTwos (n+1) w % 2 = (w % 2).toNat :=
  toTwos_mod_two_pow (m := 1) (Nat.le_add_left 1 n) w

theorem toTwos_succ_div (n : Nat) (w : Int) : toTwos (n+1) w / 2 = toTwos n (w / 2) := by
  apply Int.ofNat_inj.mp
  rw [Int.natCast_ediv, toTwos_cast, toTwos_cast, Int.pow_succ, Int.mul_comm]
  exact emod_mul_ediv w (by decide) _

theorem toTwos_ofTwos (n w : Nat) (hw : w < 2 ^ n) : toTwos n (ofTwos n w) = w := by
  unfold ofTwos
  split
  · exact toTwos_eq 1 (by omega) hw
  · exact toTwos_eq 0 (by omega) hw

theorem ofTwos_toTwos (n : Nat) (hn : 0 < n) (i : Int) (h : inRangeS n i) :
    ofTwos n (toTwos n i) = i := by
  obtain ⟨k, rfl⟩ : ∃ k, n = k + 1 := ⟨n - 1, by omega⟩
  unfold inRangeS at h
  rw [Nat.add_sub_cancel] at h
  have hc := toTwos_cast (k + 1) i
  have := natCast_two_pow k
  -- the representative of `i` modulo `2^(k+1)`, by the sign of `i`; the rest is linear in `2^k`
  have hm : i % 2 ^ (k + 1) = if 0 ≤ i then i else i + 2 ^ (k + 1) := by
    split
    · exact Int.emod_eq_of_lt ‹_› (by omega)
    · rw [← Int.add_emod_right]; exact Int.emod_eq_of_lt (by omega) (by omega)
  rw [hm] at hc
  unfold ofTwos
  split at hc <;> split <;> omega

theorem ofTwos_inRange (n : Nat) (hn : 0 < n) (w : Nat) (hw : w < 2^n) : inRangeS n (ofTwos n w) := by
  obtain ⟨k, rfl⟩ : ∃ k, n = k + 1 := ⟨n - 1, by omega⟩
  unfold inRangeS ofTwos
  rw [Nat.add_sub_cancel]
  have := natCast_two_pow k
  split <;> omega

theorem inRangeS_mono {n c : Nat} (h : n ≤ c) {i : Int} (hi : inRangeS n i) : inRangeS c i :=
  have : (2 : Int) ^ (n - 1) ≤ 2 ^ (c - 1) := by
    exact_mod_cast Nat.pow_le_pow_right (by omega : 0 < 2) (by omega : n - 1 ≤ c - 1)
  ⟨Int.le_trans (Int.neg_le_neg this) hi.1, Int.lt_of_lt_of_le hi.2 this⟩

@[simp] theorem unpack_length (bs : List Nat) : (unpack bs).length = 8 * bs.length := by
  induction bs with
  | nil => rfl
  | cons b bs ih => simp [unpack, ih]; omega

theorem unpack_append (a b : List Nat) : unpack (a ++ b) = unpack a ++ unpack b := by
  induction a with
  | nil => rfl
  | cons x a ih => simp [unpack, ih]

theorem unpack_take (l : List Nat) (k : Nat) : unpack (l.take k) = (unpack l).take (8 * k) := by
  induction l generalizing k with
  | nil => rw [List.take_nil]; exact List.take_nil.symm
  | cons b l ih =>
    cases k with
    | zero => rfl
    | succ k =>
      have e : (natBits 8 b).take (8 * (k + 1)) = natBits 8 b :=
        List.take_of_length_le (by rw [natBits_length]; omega)
      rw [List.take_succ_cons, unpack, unpack, ih, List.take_append, natBits_length, e,
        show 8 * (k + 1) - 8 = 8 * k by omega]

@[simp] theorem packAux_length (k : Nat) (bs : Bits) : (packAux k bs).length = k := by
  induction k generalizing bs with
  | zero => rfl
  | succ k ih => simp [packAux, ih]

theorem pack_length (bs : Bits) : (pack bs).length = (bs.length + 7) / 8 := by
  simp [pack]

theorem pack_nil : pack [] = [] := rfl

theorem packAux_append_false (k : Nat) (bs : Bits) (m : Nat) :
    packAux k (bs ++ List.replicate m false) = packAux k bs := by
  induction k generalizing bs m with
  | zero => rfl
  | succ k ih =>
    rw [packAux, packAux, List.take_append, List.drop_append, List.take_replicate, List.drop_replicate,
      bitsNat_append_false, ih]

theorem unpack_packAux_full (k : Nat) (bs : Bits) (h : bs.length = 8 * k) : unpack (packAux k bs) = bs := by
  induction k generalizing bs with
  | zero => exact (List.eq_nil_of_length_eq_zero h).symm
  | succ k ih =>
    have h8 := natBits_full (bs.take 8)
    rw [List.length_take, Nat.min_eq_left (by omega)] at h8
    rw [packAux, unpack, ih _ (by rw [List.length_drop]; omega), h8, List.take_append_drop]

theorem unpack_pack (bs : Bits) :
    unpack (pack bs) = bs ++ List.replicate (8 * ((bs.length + 7) / 8) - bs.length) false := by
  -- pad to whole bytes first: the zero bits change no byte, and whole bytes come back as they were
  rw [pack, ← packAux_append_false _ bs (8 * ((bs.length + 7) / 8) - bs.length)]
  exact unpack_packAux_full _ _ (by rw [List.length_append, List.length_replicate]; omega)

theorem unpack_pack_pad_lt (bs : Bits) : 8 * ((bs.length + 7) / 8) - bs.length < 8 := by omega

def bytesOk (bs : List Nat) : Prop := ∀ b ∈ bs, b < 256

theorem packAux_bytesOk (k : Nat) (bs : Bits) : bytesOk (packAux k bs) := by
  induction k generalizing bs with
  | zero => intro b hb; cases hb
  | succ k ih =>
    intro b hb
    rw [packAux, List.mem_cons] at hb
    rcases hb with rfl | hb
    · exact bitsNat_take_lt bs 8
    · exact ih _ b hb

theorem pack_bytesOk (bs : Bits) : bytesOk (pack bs) := packAux_bytesOk _ _

theorem packAux_unpack (a : List Nat) (ha : bytesOk a) : packAux a.length (unpack a) = a := by
  induction a with
  | nil => rfl
  | cons x a ih =>
    rw [List.length_cons, unpack, packAux, List.take_left' (natBits_length 8 x),
      List.drop_left' (natBits_length 8 x), bitsNat_natBits 8 x (ha x List.mem_cons_self),
      ih fun z hz => ha z (List.mem_cons_of_mem _ hz)]

theorem pack_unpack (a : List Nat) (ha : bytesOk a) : pack (unpack a) = a := by
  rw [pack, unpack_length, show (8 * a.length + 7) / 8 = a.length by omega]
  exact packAux_unpack a ha

theorem eq_pack_of_unpack (bytes : List Nat) (bits : Bits) (k : Nat)
    (hb : bytesOk bytes) (hk : k < 8) (h : unpack bytes = bits ++ List.replicate k false) :
    bytes = pack bits := by
  have hl := congrArg List.length h
  rw [unpack_length, List.length_append, List.length_replicate] at hl
  rw [← pack_unpack bytes hb, h, pack, pack, packAux_append_false, List.length_append, List.length_replicate]
  congr 1
  omega

theorem pack_append_aligned (a b : Bits) (h : a.length % 8 = 0) : pack (a ++ b) = pack a ++ pack b := by
  refine (eq_pack_of_unpack _ _ _ ?_ (unpack_pack_pad_lt b) ?_).symm
  · intro x hx
    rcases List.mem_append.mp hx with hx | hx
    · exact pack_bytesOk a x hx
    · exact pack_bytesOk b x hx
  · rw [unpack_append, unpack_pack, unpack_pack, show 8 * ((a.length + 7) / 8) - a.length = 0 by omega,
      List.replicate_zero, List.append_nil, List.append_assoc]

end Fcp
