import FcpModel.Frontend
import FcpModel.ExceptLemmas
/-!
# Front-end invariants: no dangling or mis-kinded references (C08)

Every theorem about the walk over a file goes through one factorisation (`elabDecl_eq`): a
declaration first computes, from the tree so far, what it *contributes* (`declDelta`: a tree to
merge, or an error); the state then takes that in (`St.step`).  Stickiness of errors, the frame
property, file independence and the invariants are facts about one of the two halves.
-/
namespace Fcp.Frontend
open Fcp.Syntax

/-! ### the contribution of a declaration, and the step that takes it in -/

/-- the target file of `mod a.b.c;` written in the file at `path` -/
def modTarget (path mpath : List String) : List String :=
  path.dropLast ++ mpath.dropLast ++ [mpath.getLast?.getD "" ++ ".fcp"]

/-- what the declaration `d`, met with the tree `t` collected so far, adds to the tree -/
def declDelta (loader : List String → String → Except Err Tree) (fs : FS) (path : List String)
    (t : Tree) : PDecl → Except Err Tree
  | .struct name fields _ =>
    (fields.mapM (elabField t (path.getLast?.getD "") name)).map fun fs' =>
      { structs := [⟨name, fs'⟩], impls := [⟨name, "default", name, [], []⟩] }
  | .enum name items line =>
    if items.isEmpty then .error (err1 "semantic" s!"Enum {name} as no values" (path.getLast?.getD "") line)
    else (items.mapM (elabEnumItem (path.getLast?.getD ""))).map fun es => { enums := [⟨name, es⟩] }
  | .impl proto ty name items _ =>
    .ok { impls := [⟨name.getD ty, proto, ty,
      elabExt (items.filterMap fun | .field k v => some (k, v) | _ => none),
      items.filterMap fun | .signal n kvs _ => some (⟨n, elabExt kvs⟩ : TSignal) | _ => none⟩] }
  | .service name id methods line =>
    match pyInt? id with
    | none => .error (err1 "semantic" "service id must be an integer" (path.getLast?.getD "") line)
    | some i => (methods.mapM (elabMethod (path.getLast?.getD ""))).map fun ms => { services := [⟨name, i, ms⟩] }
  | .device name fields _ => .ok { devices := [⟨name, elabExt fields⟩] }
  | .mod mpath line =>
    match fs.read (modTarget path mpath) with
    | none => .error [⟨"file-not-found", s!"File not found: {(modTarget path mpath).getLast?.getD ""}", none, none⟩]
    | some src =>
      match loader (modTarget path mpath) src with
      | .error e => .error (e ++ [⟨"import", s!"Failed to import {(modTarget path mpath).getLast?.getD ""}",
                                   some (path.getLast?.getD ""), some line⟩])
      | .ok sub => .ok sub

/-- the state takes in the contribution of a declaration: the first error is kept, a tree is merged -/
def St.step (s : St) : Except Err Tree → St
  | .error e => s.fail e
  | .ok δ => { s with tree := s.tree.merge δ }

theorem merge_empty (t : Tree) : t.merge {} = t := by
  simp [Tree.merge]

theorem elabDecl_eq (l : List String → String → Except Err Tree) (fs : FS) (p : List String)
    (s : St) (d : PDecl) : elabDecl l fs p s d = s.step (declDelta l fs p s.tree d) := by
  cases d with
  | struct name fields line =>
    simp only [elabDecl, declDelta]
    cases fields.mapM (elabField s.tree (p.getLast?.getD "") name) <;>
      simp only [St.step, Except.map, Tree.merge, List.append_nil]
  | «enum» name items line =>
    simp only [elabDecl, declDelta]
    split
    · rfl
    · cases items.mapM (elabEnumItem (p.getLast?.getD "")) <;>
        simp only [St.step, Except.map, Tree.merge, List.append_nil]
  | impl proto ty name items line =>
    simp only [elabDecl, declDelta, St.step, Tree.merge, List.append_nil]
    rfl
  | service name id methods line =>
    simp only [elabDecl, declDelta]
    cases pyInt? id <;> cases methods.mapM (elabMethod (p.getLast?.getD "")) <;>
      simp only [St.step, Except.map, Tree.merge, List.append_nil]
  | device name fields line => simp only [elabDecl, declDelta, St.step, Tree.merge, List.append_nil]
  | mod mpath line =>
    simp only [elabDecl, declDelta, modTarget]
    split
    · simp only [*, St.step]
    · split <;> simp only [*, St.step]

/-! ### the invariant of accepted trees (C08) -/

/-- every user-type reference inside `ty` resolves in `t` to a declaration of the tagged kind -/
def RefsOk (t : Tree) : STy → Prop
  | .struct n => (t.getStruct n).isSome
  | .enum n => (t.getEnum n).isSome
  | .arr e _ => RefsOk t e
  | .dyn e => RefsOk t e
  | .opt e => RefsOk t e
  | _ => True

def TreeOk (t : Tree) : Prop := ∀ st ∈ t.structs, ∀ f ∈ st.fields, RefsOk t f.ty

/-- `t'` declares at least the structs and enums of `t` (lookups that succeed keep succeeding) -/
def Extends (t t' : Tree) : Prop :=
  (∀ n, (t.getStruct n).isSome → (t'.getStruct n).isSome) ∧
  (∀ n, (t.getEnum n).isSome → (t'.getEnum n).isSome)

theorem Extends.refl (t : Tree) : Extends t t := ⟨fun _ h => h, fun _ h => h⟩

theorem Extends.trans {a b c : Tree} (h1 : Extends a b) (h2 : Extends b c) : Extends a c :=
  ⟨fun n h => h2.1 n (h1.1 n h), fun n h => h2.2 n (h1.2 n h)⟩

theorem RefsOk.mono {t t' : Tree} (h : Extends t t') : ∀ ty, RefsOk t ty → RefsOk t' ty := by
  intro ty
  induction ty with
  | struct n => exact h.1 n
  | enum n => exact h.2 n
  | arr e _ ih => exact ih
  | dyn e ih => exact ih
  | opt e ih => exact ih
  | _ => intro _; trivial

theorem Extends.merge_left (a b : Tree) : Extends a (a.merge b) := by
  constructor <;> intro n h
  · simp only [Tree.getStruct, Tree.merge, List.find?_append, Option.isSome_or] at h ⊢; rw [h]; rfl
  · simp only [Tree.getEnum, Tree.merge, List.find?_append, Option.isSome_or] at h ⊢; rw [h]; rfl

theorem Extends.merge_right (a b : Tree) : Extends b (a.merge b) := by
  constructor <;> intro n h
  · simp only [Tree.getStruct, Tree.merge, List.find?_append, Option.isSome_or] at h ⊢; rw [h, Bool.or_true]
  · simp only [Tree.getEnum, Tree.merge, List.find?_append, Option.isSome_or] at h ⊢; rw [h, Bool.or_true]

theorem elabType_refsOk (t : Tree) (file : String) : ∀ (p : PTy) (ty : STy),
    elabType t file p = .ok ty → RefsOk t ty := by
  intro p
  induction p with
  | named s line =>
    intro ty h
    simp only [elabType] at h
    split at h
    · rename_i hs; cases h; exact hs
    · split at h
      · rename_i he; cases h; exact he
      · cases h
  | arr e size ih =>
    intro ty h
    simp only [elabType] at h
    split at h
    · cases h
    · rename_i e' he
      split at h
      · cases h; exact ih e' he
      · cases h
  | dyn e ih =>
    intro ty h
    simp only [elabType] at h
    split at h
    · cases h
    · rename_i e' he; cases h; exact ih e' he
  | opt e ih =>
    intro ty h
    simp only [elabType] at h
    split at h
    · cases h
    · rename_i e' he; cases h; exact ih e' he
  | _ => intro ty h; cases h; trivial

theorem elabType_undeclared (t : Tree) (file s : String) (line : Nat)
    (hs : t.getStruct s = none) (he : t.getEnum s = none) :
    elabType t file (.named s line) =
      .error [⟨"type-not-found", s!"Type '{s}' cannot be found.", some file, some line⟩] := by
  simp [elabType, hs, he]

theorem elabField_refsOk (t : Tree) (file sname : String) (f : PField) (tf : TField)
    (h : elabField t file sname f = .ok tf) : RefsOk t tf.ty := by
  unfold elabField at h
  simp only [bind, Except.bind, pure, Except.pure] at h
  split at h
  · cases h
  · split at h
    · split at h
      · cases h
      · rename_i ty hty
        simp only [Except.ok.injEq] at h
        subst h
        exact elabType_refsOk t file _ _ hty
    · cases h

theorem getStruct_congr (t t' : Tree) (h : t'.structs = t.structs) (n : String) :
    t'.getStruct n = t.getStruct n := by unfold Tree.getStruct; rw [h]

theorem getEnum_congr (t t' : Tree) (h : t'.enums = t.enums) (n : String) :
    t'.getEnum n = t.getEnum n := by unfold Tree.getEnum; rw [h]

theorem St.fail_tree (s : St) (e : Err) : (s.fail e).tree = s.tree := rfl

theorem TreeOk.merge {t δ : Tree} (ht : TreeOk t)
    (hδ : ∀ st ∈ δ.structs, ∀ f ∈ st.fields, RefsOk t f.ty ∨ RefsOk δ f.ty) : TreeOk (t.merge δ) := by
  intro st hst f hf
  rcases List.mem_append.mp hst with h | h
  · exact RefsOk.mono (Extends.merge_left t δ) _ (ht st h f hf)
  · exact (hδ st h f hf).elim (RefsOk.mono (Extends.merge_left t δ) _) (RefsOk.mono (Extends.merge_right t δ) _)

/-- the structs a declaration contributes refer to what is declared so far (a `struct`), or are
those of an imported module, closed in itself -/
theorem declDelta_refs (loader : List String → String → Except Err Tree)
    (hl : ∀ p src t, loader p src = .ok t → TreeOk t) (fs : FS) (path : List String) (t δ : Tree) (d : PDecl)
    (h : declDelta loader fs path t d = .ok δ) :
    ∀ st ∈ δ.structs, ∀ f ∈ st.fields, RefsOk t f.ty ∨ RefsOk δ f.ty := by
  cases d with
  | struct name fields line =>
    obtain ⟨fs', hm, rfl⟩ := Except.map_eq_ok h
    intro st hst f hf
    cases List.mem_singleton.mp hst
    obtain ⟨a, _, ha⟩ := mapM_ok_mem _ _ _ hm f hf
    exact .inl (elabField_refsOk t _ name a f ha)
  | «enum» name items line =>
    simp only [declDelta] at h
    split at h
    · cases h
    · obtain ⟨es, _, rfl⟩ := Except.map_eq_ok h
      intro st hst; cases hst
  | impl proto ty name items line => cases h; intro st hst; cases hst
  | service name id methods line =>
    simp only [declDelta] at h
    split at h
    · cases h
    · obtain ⟨ms, _, rfl⟩ := Except.map_eq_ok h
      intro st hst; cases hst
  | device name fields line => cases h; intro st hst; cases hst
  | mod mpath line =>
    simp only [declDelta] at h
    split at h
    · cases h
    · split at h
      · cases h
      · rename_i sub hsub
        cases h
        exact fun st hst f hf => .inr (hl _ _ _ hsub st hst f hf)

theorem elabFile_treeOk (loader : List String → String → Except Err Tree)
    (hl : ∀ p src t, loader p src = .ok t → TreeOk t) (fs : FS) (path : List String)
    (pf : PFile) (t : Tree) (h : elabFile loader fs path pf = .ok t) : TreeOk t := by
  unfold elabFile at h
  simp only at h
  split at h
  · cases h
  · cases h
    refine List.foldlRecOn (motive := fun s : St => TreeOk s.tree) pf.decls _ ?_ fun s hs d _ => ?_
    · split <;> exact fun st hst => nomatch hst
    · rw [elabDecl_eq]
      cases hδ : declDelta loader fs path s.tree d with
      | error e => exact hs
      | ok δ => exact hs.merge (declDelta_refs loader hl fs path _ δ d hδ)

/-- **C08**: every tree the front end accepts — across any depth of module imports — has no
dangling or mis-kinded type reference -/
theorem loadFile_treeOk (fs : FS) : ∀ (fuel : Nat) (path : List String) (src : String) (t : Tree),
    loadFile fs fuel path src = .ok t → TreeOk t
  | 0, _, _, _, h => by cases h
  | fuel + 1, path, src, t, h => by
    simp only [loadFile] at h
    split at h
    · cases h
    · exact elabFile_treeOk (loadFile fs fuel) (loadFile_treeOk fs fuel) fs path _ t h

/-- the user-type name at the leaf of a `type`, if any -/
def leafNamed : PTy → Option (String × Nat)
  | .named s l => some (s, l)
  | .arr e _ => leafNamed e
  | .dyn e => leafNamed e
  | .opt e => leafNamed e
  | _ => none

/-- a reference, at any nesting depth, to a name not declared so far is rejected, and the
first message of the error names the type -/
theorem elabType_undeclared_deep (t : Tree) (file : String) : ∀ (p : PTy) (s : String) (l : Nat),
    leafNamed p = some (s, l) → t.getStruct s = none → t.getEnum s = none →
    ∃ rest, elabType t file p =
      .error (⟨"type-not-found", s!"Type '{s}' cannot be found.", some file, some l⟩ :: rest) := by
  intro p
  induction p with
  | named n line =>
    intro s l h hs he
    simp only [leafNamed, Option.some.injEq, Prod.mk.injEq] at h
    obtain ⟨rfl, rfl⟩ := h
    exact ⟨[], elabType_undeclared t file n line hs he⟩
  | arr e size ih =>
    intro s l h hs he
    obtain ⟨rest, hr⟩ := ih s l h hs he
    exact ⟨rest ++ [⟨"array", "Error parsing array type", none, none⟩], by simp [elabType, hr]⟩
  | dyn e ih =>
    intro s l h hs he
    obtain ⟨rest, hr⟩ := ih s l h hs he
    exact ⟨rest ++ [⟨"dynamic-array", "Error parsing dynamic array type", none, none⟩], by simp [elabType, hr]⟩
  | opt e ih =>
    intro s l h hs he
    obtain ⟨rest, hr⟩ := ih s l h hs he
    exact ⟨rest ++ [⟨"optional", "Error parsing optional type", none, none⟩], by simp [elabType, hr]⟩
  | _ => intro s l h; cases h

/-- … and the field's error chain ends by naming the enclosing struct -/
theorem elabField_undeclared (t : Tree) (file sname : String) (f : PField) (s : String) (l : Nat)
    (hp : ∃ r, elabParams file f.line f.params = .ok r) (hid : ∃ i, pyInt? f.id = some i)
    (h : leafNamed f.ty = some (s, l)) (hs : t.getStruct s = none) (he : t.getEnum s = none) :
    ∃ mid, elabField t file sname f =
      .error (⟨"type-not-found", s!"Type '{s}' cannot be found.", some file, some l⟩ :: mid ++
        [⟨"field", s!"Failed to parse field in struct {sname}", none, none⟩]) := by
  obtain ⟨r, hr⟩ := hp
  obtain ⟨i, hi⟩ := hid
  obtain ⟨rest, hrest⟩ := elabType_undeclared_deep t file f.ty s l h hs he
  refine ⟨rest ++ [⟨"field-type", "Error parsing type in struct field", none, none⟩], ?_⟩
  unfold elabField
  simp [bind, Except.bind, pure, Except.pure, hr, hi, hrest]

end Fcp.Frontend
