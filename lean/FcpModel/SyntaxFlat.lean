import FcpModel.SyntaxLemmas
/-!
# Parsing inverts printing for the flat productions and for whole files (token level)

Every production gets a printing relation (`…Toks tree tokens`): the token lists the
production can be written as, with the optional separators of the grammar (`|` before and
between parameters, the comma after a parameter argument, `as` in front of a binding's
name) and arbitrary line numbers, the tree recording the line of the tokens it keeps.
`parseFile_print`: parsing any printing of a file returns the file.
-/
namespace Fcp.Syntax

/-! ## sizes: fuel is never the reason for an error -/

mutual
theorem ValToks.depth_le : ∀ (v : PVal) (ts : List LTok), ValToks v ts → v.depth ≤ 2 * ts.length ∧ 1 ≤ ts.length
  | _, _, .num _ _ => by simp [PVal.depth]
  | _, _, .str _ _ => by simp [PVal.depth]
  | _, _, .ident _ _ => by simp [PVal.depth]
  | _, _, .arr items ts _ h => by
    have := ItemsToks.depth_le items ts h
    simp only [PVal.depth, List.length_cons]; omega
theorem ItemsToks.depth_le : ∀ (items : PVal) (ts : List LTok), ItemsToks items ts → items.depth ≤ 2 * ts.length
  | _, _, .last v ts _ h => by
    have := ValToks.depth_le v ts h
    simp only [PVal.depth, List.length_append, List.length_singleton]; omega
  | _, _, .more v r ts rs _ h hr => by
    have := ValToks.depth_le v ts h
    have := ItemsToks.depth_le r rs hr
    simp only [PVal.depth, List.length_append, List.length_cons]; omega
end

theorem TyToks.depth_le (t : PTy) (ts : List LTok) (h : TyToks t ts) : t.depth ≤ ts.length := by
  induction h <;> simp [PTy.depth] <;> omega

/-- a value starts with a number, a string, a word or `[`: with no other symbol -/
theorem ValToks.head_ne {v : PVal} {ts : List LTok} (h : ValToks v ts) {c : Char} (hc : c ≠ '[') :
    ∃ t r, ts = t :: r ∧ t.tok ≠ .sym c := by
  cases h with
  | arr items ts l h => exact ⟨_, _, rfl, fun e => hc (Tok.sym.inj e).symm⟩
  | _ => exact ⟨_, _, rfl, nofun⟩

/-- the value fuel `vf` suffices for every value and type printed inside `ts` -/
def Covers (vf : Nat) (ts : List LTok) : Prop := 2 * ts.length ≤ vf

theorem Covers.left {vf : Nat} {a b : List LTok} (h : Covers vf (a ++ b)) : Covers vf a := by
  unfold Covers at *; rw [List.length_append] at h; omega

theorem Covers.right {vf : Nat} {a b : List LTok} (h : Covers vf (a ++ b)) : Covers vf b := by
  unfold Covers at *; rw [List.length_append] at h; omega

theorem Covers.tail {vf : Nat} {t : LTok} {a : List LTok} (h : Covers vf (t :: a)) : Covers vf a := by
  unfold Covers at *; rw [List.length_cons] at h; omega

/-- the fuels that the parser of a block is given are computed from all remaining tokens `ts ++ rest` -/
theorem Covers.block (ts rest : List LTok) : Covers (2 * (ts ++ rest).length + 2) ts := by
  unfold Covers; rw [List.length_append]; omega

theorem length_lt_block (ts rest : List LTok) : ts.length < (ts ++ rest).length + 1 := by
  rw [List.length_append]; omega

/-- parsing a value in front of any continuation -/
theorem parseValue_ok {v : PVal} {ts : List LTok} (h : ValToks v ts) {f : Nat} (last : Nat) (rest : List LTok)
    (hf : Covers f ts) : parseValue f last (ts ++ rest) = .ok (v, rest) :=
  parseValue_print v ts h f last rest (Nat.le_trans (ValToks.depth_le v ts h).1 hf)

theorem parseType_ok {t : PTy} {ts : List LTok} (h : TyToks t ts) {f : Nat} (last : Nat) (rest : List LTok)
    (hf : Covers f ts) : parseType f last (ts ++ rest) = .ok (t, rest) :=
  parseType_print t ts h f last rest (Nat.le_trans (TyToks.depth_le t ts h) (Nat.le_trans (Nat.le_mul_of_pos_left _ (by decide)) hf))

/-! ## parameter arguments: `value ","?` … `)` -/

inductive ArgsToks : List PVal → List LTok → Prop where
  | nil (l : Nat) : ArgsToks [] [⟨.sym ')', l⟩]
  | comma (v : PVal) (vs : List PVal) (tv ts : List LTok) (l : Nat) (h : ValToks v tv) (hr : ArgsToks vs ts) :
      ArgsToks (v :: vs) (tv ++ ⟨.sym ',', l⟩ :: ts)
  | bare (v : PVal) (vs : List PVal) (tv ts : List LTok) (h : ValToks v tv) (hr : ArgsToks vs ts) :
      ArgsToks (v :: vs) (tv ++ ts)

theorem ArgsToks.head_not_comma (vs : List PVal) (ts : List LTok) (h : ArgsToks vs ts) :
    ∃ t r, ts = t :: r ∧ t.tok ≠ .sym ',' := by
  cases h with
  | nil l => exact ⟨_, _, rfl, by simp⟩
  | comma v vs tv ts l h hr | bare v vs tv ts h hr =>
    obtain ⟨t, r, rfl, ht⟩ := h.head_ne (c := ',') (by decide)
    exact ⟨t, _, rfl, ht⟩

theorem skipSym_hit (c : Char) (l : Nat) (r : List LTok) : skipSym c (⟨.sym c, l⟩ :: r) = r := by
  simp [skipSym]

theorem skipSym_miss (c : Char) (t : LTok) (r : List LTok) (h : t.tok ≠ .sym c) : skipSym c (t :: r) = t :: r := by
  obtain ⟨tk, tl⟩ := t
  cases tk with
  | sym d =>
    have : d ≠ c := by intro e; subst e; exact h rfl
    simp [skipSym, this]
  | _ => rfl

/-- the default branch of `parseArgs` is taken when the input starts with a value -/
theorem parseArgs_step (vf g last : Nat) (v : PVal) (tv rest : List LTok) (h : ValToks v tv) :
    parseArgs vf (g + 1) last (tv ++ rest) = (do
      let (v, r1) ← parseValue vf last (tv ++ rest)
      let (vs, r3) ← parseArgs vf g last (skipSym ',' r1)
      .ok (v :: vs, r3)) := by
  obtain ⟨t, r, rfl, ht⟩ := h.head_ne (c := ')') (by decide)
  rw [List.cons_append, parseArgs]
  intro l r' e
  cases e
  exact ht rfl

theorem parseArgs_print (vs : List PVal) (ts : List LTok) (h : ArgsToks vs ts) :
    ∀ (vf g last : Nat) (rest : List LTok), Covers vf ts → ts.length ≤ g →
    parseArgs vf g last (ts ++ rest) = .ok (vs, rest) := by
  induction h with
  | nil l =>
    intro vf g last rest _ hg
    cases g with
    | zero => simp at hg
    | succ g => rfl
  | comma v vs tv ts l h hr ih =>
    intro vf g last rest hvf hg
    simp only [List.length_append, List.length_cons] at hg
    cases g with
    | zero => omega
    | succ g =>
      rw [List.append_assoc, parseArgs_step vf g last v tv _ h, parseValue_ok h last _ hvf.left]
      simp only [List.cons_append, bind, Except.bind, skipSym_hit, ih vf g last rest hvf.right.tail (by omega)]
  | bare v vs tv ts h hr ih =>
    intro vf g last rest hvf hg
    have := (ValToks.depth_le v tv h).2
    rw [List.length_append] at hg
    obtain ⟨t, r, e, hne⟩ := ArgsToks.head_not_comma vs ts hr
    cases g with
    | zero => omega
    | succ g =>
      rw [List.append_assoc, parseArgs_step vf g last v tv _ h, parseValue_ok h last _ hvf.left]
      have ih' := ih vf g last rest hvf.right (by omega)
      subst e
      simp only [List.cons_append, bind, Except.bind] at ih' ⊢
      rw [skipSym_miss ',' t _ hne, ih']

/-! ## parameters: `name ( args ) "|"?` … -/

inductive ParamsToks : List PParam → List LTok → Prop where
  | nil : ParamsToks [] []
  | bar (name : String) (args : List PVal) (ps : List PParam) (ta ts : List LTok) (l1 l2 l3 : Nat)
      (h : ArgsToks args ta) (hr : ParamsToks ps ts) :
      ParamsToks (⟨name, args⟩ :: ps) (⟨.ident name, l1⟩ :: ⟨.sym '(', l2⟩ :: ta ++ ⟨.sym '|', l3⟩ :: ts)
  | bare (name : String) (args : List PVal) (ps : List PParam) (ta ts : List LTok) (l1 l2 : Nat)
      (h : ArgsToks args ta) (hr : ParamsToks ps ts) :
      ParamsToks (⟨name, args⟩ :: ps) (⟨.ident name, l1⟩ :: ⟨.sym '(', l2⟩ :: ta ++ ts)

/-- what follows a parameter list (the comma ending the field) does not start with a bar -/
theorem ParamsToks.head_not_bar (ps : List PParam) (ts : List LTok) (h : ParamsToks ps ts) (lc : Nat) (rest : List LTok) :
    ∃ t r, ts ++ ⟨.sym ',', lc⟩ :: rest = t :: r ∧ t.tok ≠ .sym '|' := by
  cases h with
  | nil => exact ⟨_, _, rfl, by simp⟩
  | bar name args ps ta ts l1 l2 l3 h hr => exact ⟨_, _, rfl, by simp⟩
  | bare name args ps ta ts l1 l2 h hr => exact ⟨_, _, rfl, by simp⟩

theorem parseParams_print (ps : List PParam) (ts : List LTok) (h : ParamsToks ps ts) :
    ∀ (vf g last lc : Nat) (rest : List LTok), Covers vf ts → ts.length < g →
    parseParams vf g last (ts ++ ⟨.sym ',', lc⟩ :: rest) = .ok (ps, ⟨.sym ',', lc⟩ :: rest) := by
  intro vf g
  induction g generalizing ps ts with
  | zero => intro _ _ _ _ hg; exact nomatch hg
  | succ g ih =>
    intro last lc rest hvf hg
    cases h with
    | nil => rfl
    | bar name args ps ta ts l1 l2 l3 h hr =>
      simp only [List.length_cons, List.length_append] at hg
      simp only [List.cons_append, List.append_assoc, parseParams,
        parseArgs_print args ta h vf _ l1 _ hvf.left.tail.tail (Nat.le_of_lt (length_lt_block _ _)),
        bind, Except.bind, skipSym_hit, ih ps ts hr l1 lc rest hvf.right.tail (by omega)]
    | bare name args ps ta ts l1 l2 h hr =>
      simp only [List.length_cons, List.length_append] at hg
      obtain ⟨t, r, e, hne⟩ := ParamsToks.head_not_bar ps ts hr lc rest
      have ih' := ih ps ts hr l1 lc rest hvf.right (by omega)
      simp only [List.cons_append, List.append_assoc, parseParams,
        parseArgs_print args ta h vf _ l1 _ hvf.left.tail.tail (Nat.le_of_lt (length_lt_block _ _)),
        bind, Except.bind]
      rw [e] at ih' ⊢
      rw [skipSym_miss '|' t r hne, ih']

/-! ## struct fields: `name @ id : type "|"? params ,` … up to `}` -/

inductive FieldToks : PField → List LTok → Prop where
  | bar (name id : String) (ty : PTy) (ps : List PParam) (tty tps : List LTok) (l la lid lc lb lcomma : Nat)
      (ht : TyToks ty tty) (hp : ParamsToks ps tps) :
      FieldToks ⟨name, id, ty, ps, l⟩
        (⟨.ident name, l⟩ :: ⟨.sym '@', la⟩ :: ⟨.num id, lid⟩ :: ⟨.sym ':', lc⟩ :: tty ++ ⟨.sym '|', lb⟩ :: tps ++ [⟨.sym ',', lcomma⟩])
  | bare (name id : String) (ty : PTy) (ps : List PParam) (tty tps : List LTok) (l la lid lc lcomma : Nat)
      (ht : TyToks ty tty) (hp : ParamsToks ps tps) :
      FieldToks ⟨name, id, ty, ps, l⟩
        (⟨.ident name, l⟩ :: ⟨.sym '@', la⟩ :: ⟨.num id, lid⟩ :: ⟨.sym ':', lc⟩ :: tty ++ tps ++ [⟨.sym ',', lcomma⟩])

inductive FieldsToks : List PField → List LTok → Prop where
  | nil : FieldsToks [] []
  | cons (f : PField) (fs : List PField) (tf ts : List LTok) (h : FieldToks f tf) (hr : FieldsToks fs ts) :
      FieldsToks (f :: fs) (tf ++ ts)

theorem FieldToks.length_pos (f : PField) (tf : List LTok) (h : FieldToks f tf) : 1 ≤ tf.length := by
  cases h <;> exact Nat.succ_pos _

/-- one field, then whatever parses the rest -/
theorem parseFields_step (f : PField) (tf : List LTok) (h : FieldToks f tf) (vf g last : Nat) (rest : List LTok)
    (hvf : Covers vf tf) :
    parseFields vf (g + 1) last (tf ++ rest) = (do
      let (fs, r9) ← parseFields vf g f.line rest
      .ok (f :: fs, r9)) := by
  cases h with
  | bar name id ty ps tty tps l la lid lc lb lcomma ht hp =>
    have hty := hvf.left.left.tail.tail.tail.tail
    simp only [List.cons_append, List.append_assoc, List.nil_append, parseFields, expectIdent, expectSym, expectNum, bind,
      Except.bind, beq_self_eq_true, ↓reduceIte, parseType_ok ht l _ hty, skipSym_hit,
      parseParams_print ps tps hp vf _ l lcomma rest hvf.left.right.tail (length_lt_block _ _)]
  | bare name id ty ps tty tps l la lid lc lcomma ht hp =>
    have hty := hvf.left.left.tail.tail.tail.tail
    obtain ⟨t, r, e, hne⟩ := ParamsToks.head_not_bar ps tps hp lcomma rest
    have hpp := parseParams_print ps tps hp vf _ l lcomma rest hvf.left.right (length_lt_block tps (⟨.sym ',', lcomma⟩ :: rest))
    simp only [List.cons_append, List.append_assoc, List.nil_append, parseFields, expectIdent, expectSym, expectNum, bind,
      Except.bind, beq_self_eq_true, ↓reduceIte, parseType_ok ht l _ hty]
    rw [e] at hpp ⊢
    rw [skipSym_miss '|' t r hne, hpp]
    simp only [beq_self_eq_true, ↓reduceIte]

theorem parseFields_print (fs : List PField) (ts : List LTok) (h : FieldsToks fs ts) :
    ∀ (vf g last lb : Nat) (rest : List LTok), Covers vf ts → ts.length < g →
    parseFields vf g last (ts ++ ⟨.sym '}', lb⟩ :: rest) = .ok (fs, ⟨.sym '}', lb⟩ :: rest) := by
  intro vf g
  induction g generalizing fs ts with
  | zero => intro _ _ _ _ hg; exact nomatch hg
  | succ g ih =>
    intro last lb rest hvf hg
    cases h with
    | nil => rfl
    | cons f fs tf ts h hr =>
      have := FieldToks.length_pos f tf h
      rw [List.length_append] at hg
      rw [List.append_assoc, parseFields_step f tf h vf g last _ hvf.left, ih fs ts hr f.line lb rest hvf.right (by omega)]
      rfl

/-! ## enumerators `name = value ,` and extension fields `name : value ,`, up to `}` -/

inductive EnumItemsToks : List (String × PVal × Nat) → List LTok → Prop where
  | nil : EnumItemsToks [] []
  | cons (name : String) (v : PVal) (l le lc : Nat) (tv : List LTok) (es : List (String × PVal × Nat)) (ts : List LTok)
      (h : ValToks v tv) (hr : EnumItemsToks es ts) :
      EnumItemsToks ((name, v, l) :: es) (⟨.ident name, l⟩ :: ⟨.sym '=', le⟩ :: tv ++ ⟨.sym ',', lc⟩ :: ts)

theorem parseEnumItems_print (es : List (String × PVal × Nat)) (ts : List LTok) (h : EnumItemsToks es ts) :
    ∀ (vf g last lb : Nat) (rest : List LTok), Covers vf ts → ts.length < g →
    parseEnumItems vf g last (ts ++ ⟨.sym '}', lb⟩ :: rest) = .ok (es, ⟨.sym '}', lb⟩ :: rest) := by
  intro vf g
  induction g generalizing es ts with
  | zero => intro _ _ _ _ hg; exact nomatch hg
  | succ g ih =>
    intro last lb rest hvf hg
    cases h with
    | nil => rfl
    | cons name v l le lc tv es ts h hr =>
      simp only [List.length_cons, List.length_append] at hg
      simp only [List.cons_append, List.append_assoc, parseEnumItems, expectIdent, expectSym, bind, Except.bind,
        beq_self_eq_true, ↓reduceIte, parseValue_ok h l _ hvf.left.tail.tail, ih es ts hr l lb rest hvf.right.tail (by omega)]

inductive ExtFieldsToks : List (String × PVal) → List LTok → Prop where
  | nil : ExtFieldsToks [] []
  | cons (name : String) (v : PVal) (l lc lcomma : Nat) (tv : List LTok) (fs : List (String × PVal)) (ts : List LTok)
      (h : ValToks v tv) (hr : ExtFieldsToks fs ts) :
      ExtFieldsToks ((name, v) :: fs) (⟨.ident name, l⟩ :: ⟨.sym ':', lc⟩ :: tv ++ ⟨.sym ',', lcomma⟩ :: ts)

theorem parseExtFields_print (fs : List (String × PVal)) (ts : List LTok) (h : ExtFieldsToks fs ts) :
    ∀ (vf g last lb : Nat) (rest : List LTok), Covers vf ts → ts.length < g →
    parseExtFields vf g last (ts ++ ⟨.sym '}', lb⟩ :: rest) = .ok (fs, ⟨.sym '}', lb⟩ :: rest) := by
  intro vf g
  induction g generalizing fs ts with
  | zero => intro _ _ _ _ hg; exact nomatch hg
  | succ g ih =>
    intro last lb rest hvf hg
    cases h with
    | nil => rfl
    | cons name v l lc lcomma tv fs ts h hr =>
      simp only [List.length_cons, List.length_append] at hg
      simp only [List.cons_append, List.append_assoc, parseExtFields, expectIdent, expectSym, bind, Except.bind,
        beq_self_eq_true, ↓reduceIte, parseValue_ok h l _ hvf.left.tail.tail, ih fs ts hr l lb rest hvf.right.tail (by omega)]

/-! ## binding items: extension fields and `signal name { … } ,` blocks -/

inductive ImplItemsToks : List PItem → List LTok → Prop where
  | nil : ImplItemsToks [] []
  | field (name : String) (v : PVal) (l lc lcomma : Nat) (tv : List LTok) (is : List PItem) (ts : List LTok)
      (h : ValToks v tv) (hr : ImplItemsToks is ts) :
      ImplItemsToks (.field name v :: is) (⟨.ident name, l⟩ :: ⟨.sym ':', lc⟩ :: tv ++ ⟨.sym ',', lcomma⟩ :: ts)
  | signal (name : String) (fs : List (String × PVal)) (l ln lo lb lcomma : Nat) (tf : List LTok) (is : List PItem)
      (ts : List LTok) (h : ExtFieldsToks fs tf) (hne : fs ≠ []) (hr : ImplItemsToks is ts) :
      ImplItemsToks (.signal name fs l :: is)
        (⟨.ident "signal", l⟩ :: ⟨.ident name, ln⟩ :: ⟨.sym '{', lo⟩ :: tf ++ ⟨.sym '}', lb⟩ :: ⟨.sym ',', lcomma⟩ :: ts)

theorem parseImplItems_print (is : List PItem) (ts : List LTok) (h : ImplItemsToks is ts) :
    ∀ (vf g last lb : Nat) (rest : List LTok), Covers vf ts → ts.length < g →
    parseImplItems vf g last (ts ++ ⟨.sym '}', lb⟩ :: rest) = .ok (is, ⟨.sym '}', lb⟩ :: rest) := by
  intro vf g
  induction g generalizing is ts with
  | zero => intro _ _ _ _ hg; exact nomatch hg
  | succ g ih =>
    intro last lb rest hvf hg
    cases h with
    | nil => rfl
    | field name v l lc lcomma tv is ts h hr =>
      simp only [List.length_cons, List.length_append] at hg
      -- the last branch of `parseImplItems`; a field named `signal` is still a field, `:` follows, not a name
      rw [List.cons_append, List.cons_append, parseImplItems]
      · simp only [List.append_assoc, List.cons_append, expectIdent, parseValue_ok h l _ hvf.left.tail.tail, expectSym, bind,
          Except.bind, beq_self_eq_true, ↓reduceIte, ih is ts hr l lb rest hvf.right.tail (by omega)]
      · nofun
      · nofun
    | signal name fs l ln lo lb' lcomma tf is ts h hne hr =>
      simp only [List.length_cons, List.length_append] at hg
      simp only [List.cons_append, List.append_assoc, parseImplItems,
        parseExtFields_print fs tf h vf _ l lb' _ hvf.left.tail.tail.tail (length_lt_block _ _), bind, Except.bind,
        List.isEmpty_eq_false_iff.2 hne, Bool.false_eq_true, ↓reduceIte, expectSym, beq_self_eq_true,
        ih is ts hr l lb rest hvf.right.tail.tail (by omega)]

/-! ## methods and module paths -/

inductive MethodsToks : List PMethod → List LTok → Prop where
  | nil : MethodsToks [] []
  | cons (name inp id out : String) (l l1 l2 l3 l4 l5 l6 l7 l8 l9 : Nat) (ms : List PMethod) (ts : List LTok)
      (hr : MethodsToks ms ts) :
      MethodsToks (⟨name, inp, id, out, l⟩ :: ms)
        (⟨.ident "method", l⟩ :: ⟨.ident name, l1⟩ :: ⟨.sym '(', l2⟩ :: ⟨.ident inp, l3⟩ :: ⟨.sym ')', l4⟩ ::
         ⟨.sym '@', l5⟩ :: ⟨.num id, l6⟩ :: ⟨.ident "returns", l7⟩ :: ⟨.ident out, l8⟩ :: ⟨.sym ',', l9⟩ :: ts)

theorem parseMethods_print (ms : List PMethod) (ts : List LTok) (h : MethodsToks ms ts) :
    ∀ (g last lb : Nat) (rest : List LTok), ts.length < g →
    parseMethods g last (ts ++ ⟨.sym '}', lb⟩ :: rest) = .ok (ms, ⟨.sym '}', lb⟩ :: rest) := by
  intro g
  induction g generalizing ms ts with
  | zero => intro _ _ _ hg; exact nomatch hg
  | succ g ih =>
    intro last lb rest hg
    cases h with
    | nil => rfl
    | cons name inp id out l l1 l2 l3 l4 l5 l6 l7 l8 l9 ms ts hr =>
      simp only [List.length_cons] at hg
      simp only [List.cons_append, parseMethods, expectKw, expectIdent, expectSym, expectNum, bind, Except.bind,
        beq_self_eq_true, ↓reduceIte, ih ms ts hr l lb rest (by omega)]

inductive ModPathToks : List String → List LTok → Prop where
  | one (s : String) (l : Nat) : ModPathToks [s] [⟨.ident s, l⟩]
  | more (s : String) (l ld : Nat) (ps : List String) (ts : List LTok) (hr : ModPathToks ps ts) :
      ModPathToks (s :: ps) (⟨.ident s, l⟩ :: ⟨.sym '.', ld⟩ :: ts)

theorem parseModPath_print (ps : List String) (ts : List LTok) (h : ModPathToks ps ts) :
    ∀ (g last lsemi : Nat) (rest : List LTok), ts.length ≤ g →
    parseModPath g last (ts ++ ⟨.sym ';', lsemi⟩ :: rest) = .ok (ps, ⟨.sym ';', lsemi⟩ :: rest) := by
  intro g
  induction g generalizing ps ts with
  | zero => intro _ _ _ hg; cases h <;> exact nomatch hg
  | succ g ih =>
    intro last lsemi rest hg
    cases h with
    | one s l => rfl
    | more s l ld ps ts hr =>
      simp only [List.length_cons] at hg
      simp only [List.cons_append, parseModPath, expectIdent, bind, Except.bind, ih ps ts hr l lsemi rest (by omega)]

/-! ## declarations, files -/

theorem skipKw_hit (kw : String) (l : Nat) (r : List LTok) : skipKw kw (⟨.ident kw, l⟩ :: r) = r := by
  simp [skipKw]

theorem skipKw_miss_ident (kw s : String) (l : Nat) (r : List LTok) (h : s ≠ kw) :
    skipKw kw (⟨.ident s, l⟩ :: r) = ⟨.ident s, l⟩ :: r := by
  simp [skipKw, h]

theorem skipKw_sym (kw : String) (c : Char) (l : Nat) (r : List LTok) :
    skipKw kw (⟨.sym c, l⟩ :: r) = ⟨.sym c, l⟩ :: r := rfl

/-- the tokens between `for T` and `{`: nothing, `as N`, or a bare `N` (which must not be `as`) -/
inductive AliasToks : Option String → List LTok → Prop where
  | none : AliasToks .none []
  | withAs (n : String) (l1 l2 : Nat) : AliasToks (some n) [⟨.ident "as", l1⟩, ⟨.ident n, l2⟩]
  | bare (n : String) (l : Nat) (h : n ≠ "as") : AliasToks (some n) [⟨.ident n, l⟩]

inductive DeclToks : PDecl → List LTok → Prop where
  | struct (name : String) (fs : List PField) (l ln lo lb : Nat) (tf : List LTok) (h : FieldsToks fs tf) (hne : fs ≠ []) :
      DeclToks (.struct name fs l)
        (⟨.ident "struct", l⟩ :: ⟨.ident name, ln⟩ :: ⟨.sym '{', lo⟩ :: tf ++ [⟨.sym '}', lb⟩])
  | enum (name : String) (es : List (String × PVal × Nat)) (l ln lo lb : Nat) (te : List LTok) (h : EnumItemsToks es te) :
      DeclToks (.enum name es l)
        (⟨.ident "enum", l⟩ :: ⟨.ident name, ln⟩ :: ⟨.sym '{', lo⟩ :: te ++ [⟨.sym '}', lb⟩])
  | impl (proto ty : String) (alias : Option String) (is : List PItem) (l lp lf lt lo lb : Nat) (ta ti : List LTok)
      (ha : AliasToks alias ta) (h : ImplItemsToks is ti) (hne : is ≠ []) :
      DeclToks (.impl proto ty alias is l)
        (⟨.ident "impl", l⟩ :: ⟨.ident proto, lp⟩ :: ⟨.ident "for", lf⟩ :: ⟨.ident ty, lt⟩ :: ta ++
          ⟨.sym '{', lo⟩ :: ti ++ [⟨.sym '}', lb⟩])
  | service (name id : String) (ms : List PMethod) (l ln la li lo lb : Nat) (tm : List LTok) (h : MethodsToks ms tm)
      (hne : ms ≠ []) :
      DeclToks (.service name id ms l)
        (⟨.ident "service", l⟩ :: ⟨.ident name, ln⟩ :: ⟨.sym '@', la⟩ :: ⟨.num id, li⟩ :: ⟨.sym '{', lo⟩ :: tm ++ [⟨.sym '}', lb⟩])
  | device (name : String) (fs : List (String × PVal)) (l ln lo lb : Nat) (tf : List LTok) (h : ExtFieldsToks fs tf)
      (hne : fs ≠ []) :
      DeclToks (.device name fs l)
        (⟨.ident "device", l⟩ :: ⟨.ident name, ln⟩ :: ⟨.sym '{', lo⟩ :: tf ++ [⟨.sym '}', lb⟩])
  | mod (ps : List String) (l lsemi : Nat) (tp : List LTok) (h : ModPathToks ps tp) :
      DeclToks (.mod ps l) (⟨.ident "mod", l⟩ :: tp ++ [⟨.sym ';', lsemi⟩])

/-- **a declaration parses back**, whatever follows -/
theorem parseDecl_print (d : PDecl) (ts : List LTok) (h : DeclToks d ts) (last : Nat) (rest : List LTok) :
    parseDecl last (ts ++ rest) = .ok (d, rest) := by
  cases h with
  | struct name fs l ln lo lb tf h hne =>
    simp only [List.cons_append, List.append_assoc, List.nil_append, parseDecl, expectIdent, expectSym, bind,
      Except.bind, beq_self_eq_true, ↓reduceIte, List.isEmpty_eq_false_iff.2 hne, Bool.false_eq_true,
      parseFields_print fs tf h _ _ l lb rest (Covers.block _ _) (length_lt_block _ _)]
  | enum name es l ln lo lb te h =>
    simp only [List.cons_append, List.append_assoc, List.nil_append, parseDecl, expectIdent, expectSym, bind,
      Except.bind, beq_self_eq_true, ↓reduceIte,
      parseEnumItems_print es te h _ _ l lb rest (Covers.block _ _) (length_lt_block _ _)]
  | impl proto ty alias is l lp lf lt lo lb ta ti ha h hne =>
    -- whichever way the optional `as` and name are written, the block is read the same way
    have body := parseImplItems_print is ti h _ _ l lb rest (Covers.block ti (⟨.sym '}', lb⟩ :: rest))
      (length_lt_block ti (⟨.sym '}', lb⟩ :: rest))
    cases ha with
    | none =>
      simp only [List.cons_append, List.append_assoc, List.nil_append, parseDecl, expectIdent,
        expectKw, expectSym, bind, Except.bind, beq_self_eq_true, ↓reduceIte, skipKw_sym, body, List.isEmpty_eq_false_iff.2 hne,
        Bool.false_eq_true]
    | withAs n l1 l2 =>
      simp only [List.cons_append, List.append_assoc, List.nil_append, parseDecl, expectIdent,
        expectKw, expectSym, bind, Except.bind, beq_self_eq_true, ↓reduceIte, skipKw_hit, body, List.isEmpty_eq_false_iff.2 hne,
        Bool.false_eq_true]
    | bare n ln hn =>
      simp only [List.cons_append, List.append_assoc, List.nil_append, parseDecl, expectIdent,
        expectKw, expectSym, bind, Except.bind, beq_self_eq_true, ↓reduceIte, skipKw_miss_ident "as" n ln _ hn, body,
        List.isEmpty_eq_false_iff.2 hne, Bool.false_eq_true]
  | service name id ms l ln la li lo lb tm h hne =>
    simp only [List.cons_append, List.append_assoc, List.nil_append, parseDecl, expectIdent, expectSym, expectNum,
      bind, Except.bind, beq_self_eq_true, ↓reduceIte, List.isEmpty_eq_false_iff.2 hne, Bool.false_eq_true,
      parseMethods_print ms tm h _ l lb rest (length_lt_block _ _)]
  | device name fs l ln lo lb tf h hne =>
    simp only [List.cons_append, List.append_assoc, List.nil_append, parseDecl, expectIdent, expectSym, bind,
      Except.bind, beq_self_eq_true, ↓reduceIte, List.isEmpty_eq_false_iff.2 hne, Bool.false_eq_true,
      parseExtFields_print fs tf h _ _ l lb rest (Covers.block _ _) (length_lt_block _ _)]
  | mod ps l lsemi tp h =>
    simp only [List.cons_append, List.append_assoc, List.nil_append, parseDecl, expectSym, bind, Except.bind,
      beq_self_eq_true, ↓reduceIte, parseModPath_print ps tp h _ l lsemi rest (Nat.le_of_lt (length_lt_block _ _))]

inductive DeclsToks : List PDecl → List LTok → Prop where
  | nil : DeclsToks [] []
  | cons (d : PDecl) (ds : List PDecl) (td ts : List LTok) (h : DeclToks d td) (hr : DeclsToks ds ts) :
      DeclsToks (d :: ds) (td ++ ts)

theorem parseDecls_print (ds : List PDecl) (ts : List LTok) (h : DeclsToks ds ts) :
    ∀ (g last : Nat), ts.length < g → parseDecls g last ts = .ok ds := by
  intro g
  induction g generalizing ds ts with
  | zero => intro _ hg; exact nomatch hg
  | succ g ih =>
    intro last hg
    cases h with
    | nil => rfl
    | cons d ds td ts h hr =>
      have hd := parseDecl_print d td h last ts
      -- `parseDecls` tells an empty input from a declaration by the first token
      obtain ⟨t, r, rfl⟩ : ∃ t r, td = t :: r := by cases h <;> exact ⟨_, _, rfl⟩
      simp only [List.cons_append, List.length_cons, List.length_append] at hd hg ⊢
      simp only [parseDecls, hd, bind, Except.bind, ih ds ts hr _ (by omega)]

/-- a whole file: `version : "<s>"` and the declarations -/
inductive FileToks : PFile → List LTok → Prop where
  | mk (v : String) (l lc lv : Nat) (ds : List PDecl) (ts : List LTok) (h : DeclsToks ds ts) :
      FileToks ⟨v, l, ds⟩ (⟨.ident "version", l⟩ :: ⟨.sym ':', lc⟩ :: ⟨.str v, lv⟩ :: ts)

/-- **parsing inverts printing**: every printing of a file — any of the optional separators,
any line numbers, any nesting depth of types and values — parses back to that file -/
theorem parseFile_print (pf : PFile) (ts : List LTok) (h : FileToks pf ts) : parseFile ts = .ok pf := by
  cases h with
  | mk v l lc lv ds ts h =>
    simp only [parseFile, expectKw, expectSym, bind, Except.bind, beq_self_eq_true, ↓reduceIte,
      parseDecls_print ds ts h _ l (Nat.lt_succ_self _)]

end Fcp.Syntax
