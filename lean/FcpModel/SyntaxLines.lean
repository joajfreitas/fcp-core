import FcpModel.LexStep
/-!
# Every line the reference front end cites exists

`lex_lines` bounds the line of every token and of every lexical error by the number of lines
of the source: a step of the lexer never has more line feeds ahead than before (`lexStep_nl`).
Whatever the parser does with such tokens, the line of a *syntax* error is the line of one of
the tokens (or the running "last line", itself a token line), hence within the same bounds, and
so are the lines it keeps in the tree.  Together: `parseText_safe`.
-/
namespace Fcp.Syntax

def LinesOk (N : Nat) (ts : List LTok) : Prop := ∀ t ∈ ts, 1 ≤ t.line ∧ t.line ≤ N

def InB (N l : Nat) : Prop := 1 ≤ l ∧ l ≤ N

/-- a parser result is safe: an error cites a line within bounds; a success leaves tokens
within bounds and a value satisfying `Q` (stated without a `match`, so that `split` only ever
sees the matches of the parser under study) -/
def Safe {α : Type} (N : Nat) (Q : α → Prop) (res : Except SynErr (α × List LTok)) : Prop :=
  (∀ e, res = .error e → InB N e.line) ∧ (∀ a r, res = .ok (a, r) → LinesOk N r ∧ Q a)

theorem Safe.ok {α : Type} {N : Nat} {Q : α → Prop} {a : α} {r : List LTok} (hr : LinesOk N r) (hq : Q a) :
    Safe N Q (.ok (a, r)) := by
  refine ⟨fun e h => ?_, fun a' r' h => ?_⟩
  · cases h
  · cases h; exact ⟨hr, hq⟩

theorem Safe.error {α : Type} {N : Nat} {Q : α → Prop} {e : SynErr} (h : InB N e.line) :
    Safe N Q (.error e : Except SynErr (α × List LTok)) := by
  refine ⟨fun e' h' => ?_, fun a r h' => ?_⟩
  · cases h'; exact h
  · cases h'

theorem LinesOk.tail {N : Nat} {t : LTok} {ts : List LTok} (h : LinesOk N (t :: ts)) : LinesOk N ts :=
  fun x hx => h x (List.mem_cons_of_mem _ hx)

theorem LinesOk.head {N : Nat} {t : LTok} {ts : List LTok} (h : LinesOk N (t :: ts)) : InB N t.line :=
  h t List.mem_cons_self

theorem lineOf_ok {N last : Nat} {ts : List LTok} (h : LinesOk N ts) (hl : InB N last) : InB N (lineOf ts last) := by
  cases ts with
  | nil => exact hl
  | cons t r => exact h.head

/-- sequencing -/
theorem Safe.bind {α β : Type} {N : Nat} {Q : α → Prop} {R : β → Prop}
    {x : Except SynErr (α × List LTok)} {f : α × List LTok → Except SynErr (β × List LTok)}
    (hx : Safe N Q x) (hf : ∀ a r, LinesOk N r → Q a → Safe N R (f (a, r))) : Safe N R (x >>= f) := by
  cases x with
  | error e => exact Safe.error (hx.1 e rfl)
  | ok p =>
    obtain ⟨a, r⟩ := p
    obtain ⟨h1, h2⟩ := hx.2 a r rfl
    exact hf a r h1 h2

theorem Safe.mono {α : Type} {N : Nat} {Q R : α → Prop} {x : Except SynErr (α × List LTok)}
    (hx : Safe N Q x) (h : ∀ a, Q a → R a) : Safe N R x :=
  ⟨hx.1, fun a r e => ⟨(hx.2 a r e).1, h a (hx.2 a r e).2⟩⟩

/-- `Safe` for a result that carries no remaining tokens -/
def SafeR {α : Type} (N : Nat) (Q : α → Prop) (res : Except SynErr α) : Prop :=
  (∀ e, res = .error e → InB N e.line) ∧ ∀ a, res = .ok a → Q a

theorem SafeR.ok {α : Type} {N : Nat} {Q : α → Prop} {a : α} (hq : Q a) : SafeR N Q (.ok a) :=
  ⟨fun _ h => (nomatch h), fun _ h => by cases h; exact hq⟩

theorem SafeR.error {α : Type} {N : Nat} {Q : α → Prop} {e : SynErr} (h : InB N e.line) :
    SafeR N Q (.error e : Except SynErr α) :=
  ⟨fun _ h' => by cases h'; exact h, fun _ h' => (nomatch h')⟩

theorem SafeR.bind {α β : Type} {N : Nat} {Q : α → Prop} {R : β → Prop} {x : Except SynErr α}
    {f : α → Except SynErr β} (hx : SafeR N Q x) (hf : ∀ a, Q a → SafeR N R (f a)) : SafeR N R (x >>= f) := by
  cases x with
  | error e => exact .error (hx.1 e rfl)
  | ok a => exact hf a (hx.2 a rfl)

theorem Safe.toR {α : Type} {N : Nat} {Q : α → Prop} {x : Except SynErr (α × List LTok)} (hx : Safe N Q x) :
    SafeR N (fun p => LinesOk N p.2 ∧ Q p.1) x :=
  ⟨hx.1, fun p h => hx.2 p.1 p.2 h⟩

/-! ## the lexer: every line number it reports exists in the source -/

/-- number of line feeds -/
def nl : List Char → Nat
  | [] => 0
  | c :: cs => (if c == '\n' then 1 else 0) + nl cs

theorem nl_append (a b : List Char) : nl (a ++ b) = nl a + nl b := by
  induction a with
  | nil => simp [nl]
  | cons c cs ih => simp only [List.cons_append, nl, ih]; omega

theorem nl_drop_le (cs : List Char) (k : Nat) : nl (cs.drop k) ≤ nl cs := by
  have := nl_append (cs.take k) (cs.drop k)
  rw [List.take_append_drop] at this
  omega

theorem nl_takeWhile_snd (p : Char → Bool) (cs : List Char) : nl (takeWhile p cs).2 ≤ nl cs := by
  induction cs with
  | nil => simp [takeWhile]
  | cons c cs ih =>
    simp only [takeWhile]
    split
    · simp only [nl]; omega
    · simp [nl]

theorem nl_takeWhile_pair (p : Char → Bool) (cs a b : List Char) (h : takeWhile p cs = (a, b)) :
    nl b ≤ nl cs := by
  have := nl_takeWhile_snd p cs
  rw [h] at this
  exact this

theorem skipBlock_nl (cs : List Char) (n : Nat) (r : List Char) (m : Nat)
    (h : skipBlock cs n = some (r, m)) : m + nl r ≤ n + nl cs := by
  fun_induction skipBlock cs n with
  | case1 n => cases h
  | case2 cs n =>
    simp only [Option.some.injEq, Prod.mk.injEq] at h
    obtain ⟨rfl, rfl⟩ := h
    simp [nl]
  | case3 c cs n hne ih =>
    have := ih h
    simp only [nl]
    split at this <;> simp_all <;> omega

theorem strBody_nl (cs s r : List Char) (h : strBody cs = some (s, r)) : nl r ≤ nl cs := by
  fun_induction strBody cs generalizing s r
  case case2 => cases h; exact Nat.le_add_left _ _
  case case5 ih | case6 ih =>
    simp only [Option.map_eq_some_iff, Prod.exists, Prod.mk.injEq] at h
    obtain ⟨a, b, hab, -, rfl⟩ := h
    have := ih a _ hab
    simp only [nl]; omega
  all_goals cases h

/-- a step of the lexer never goes on with more line feeds ahead than it had: what it skips
accounts for the line feeds it passes, and a token has none inside -/
theorem lexStep_nl {β : Type} (P : β → Prop) {err : String → β} {skip : List Char → Nat → β}
    {tok : Tok → List Char → β} (c : Char) (cs : List Char) (herr : ∀ m, P (err m))
    (hskip : ∀ r n, n + nl r ≤ nl (c :: cs) → P (skip r n)) (htok : ∀ t r, nl r ≤ nl (c :: cs) → P (tok t r)) :
    P (lexStep err skip tok c cs) := by
  have h0 : nl cs ≤ nl (c :: cs) := Nat.le_add_left _ _
  have hnum : ∀ bad pre cs', (∀ k, nl (cs'.drop k) ≤ nl (c :: cs)) → P (numStep err tok bad pre cs') := by
    intro bad pre cs' h
    fun_cases numStep err tok bad pre cs'
    · exact htok _ _ (h _)
    · exact herr _
  fun_cases lexStep err skip tok c cs
  case case1 => exact hskip _ _ (by omega)
  case case2 h => rw [beq_iff_eq] at h; subst h; exact hskip _ _ (Nat.le_refl _)
  case case3 r => exact hskip _ _ (Nat.le_trans (by simpa using nl_takeWhile_snd _ r) (Nat.le_trans (Nat.le_add_left _ _) h0))
  case case4 h => exact hskip _ _ (Nat.le_trans (by simpa using skipBlock_nl _ _ _ _ h) (Nat.le_trans (Nat.le_add_left _ _) h0))
  case case7 h => exact htok _ _ (Nat.le_trans (strBody_nl _ _ _ h) h0)
  case case9 =>
    fun_cases wordStep err tok c cs
    case case1 h => exact htok _ _ (Nat.le_trans (nl_takeWhile_pair _ _ _ _ h) h0)
    case case2 | case4 => exact hnum _ _ _ (nl_drop_le _)
    case case3 => exact hnum _ _ _ fun k => Nat.le_trans (nl_drop_le cs k) h0
    case case5 | case6 | case7 => exact htok _ _ h0
    case case8 => exact herr _
  all_goals exact herr _

/-- every line number the lexer attaches to a token, or to an error, lies between 1 and the
starting line plus the number of line feeds in the input -/
theorem lexAux_safe {N : Nat} : ∀ (f : Nat) (cs : List Char) (line : Nat) (acc : List LTok),
    1 ≤ line → line + nl cs ≤ N → LinesOk N acc → SafeR N (LinesOk N) (lexAux f cs line acc)
  | 0, _, _, _, hlo, hN, _ => .error ⟨hlo, Nat.le_trans (Nat.le_add_right _ _) hN⟩
  | _+1, [], _, _, _, _, hacc => .ok fun t ht => hacc t (List.mem_reverse.mp ht)
  | f+1, c :: cs, line, acc, hlo, hN, hacc => by
    have hl : InB N line := ⟨hlo, Nat.le_trans (Nat.le_add_right _ _) hN⟩
    rw [lexAux_cons]
    exact lexStep_nl (SafeR N (LinesOk N)) c cs (fun m => .error hl)
      (fun r n h => lexAux_safe f r (line + n) acc (by omega) (by omega) hacc)
      (fun t r h => lexAux_safe f r line (⟨t, line⟩ :: acc) hlo (by omega) (List.forall_mem_cons.2 ⟨hl, hacc⟩))

/-- **the lexer never cites a line that is not there**: all token lines, and the line of a
lexical error, are between 1 and the number of lines of the source -/
theorem lex_lines (src : String) :
    (∀ ts, lex src = .ok ts → ∀ t ∈ ts, 1 ≤ t.line ∧ t.line ≤ 1 + nl src.toList) ∧
    (∀ e, lex src = .error e → 1 ≤ e.line ∧ e.line ≤ 1 + nl src.toList) :=
  have h : SafeR _ (LinesOk _) (lex src) := lexAux_safe _ _ 1 [] (Nat.le_refl 1) (Nat.le_refl _) (by simp [LinesOk])
  ⟨h.2, h.1⟩

/-! ## the parser -/

theorem skipSym_ok {N : Nat} (c : Char) {ts : List LTok} (h : LinesOk N ts) : LinesOk N (skipSym c ts) := by
  fun_cases skipSym c ts
  · exact h.tail
  · exact h
  · exact h

theorem skipKw_ok {N : Nat} (kw : String) {ts : List LTok} (h : LinesOk N ts) : LinesOk N (skipKw kw ts) := by
  fun_cases skipKw kw ts
  · exact h.tail
  · exact h
  · exact h

/-! ## the token-level primitives -/

theorem expectSym_safe {N : Nat} (c : Char) {last : Nat} {ts : List LTok} (h : LinesOk N ts) (hl : InB N last) :
    Safe N (fun _ => True) (expectSym c last ts) := by
  fun_cases expectSym c last ts
  · exact Safe.ok h.tail trivial
  · exact Safe.error h.head
  · exact Safe.error (lineOf_ok h hl)

theorem expectIdent_safe {N last : Nat} {ts : List LTok} (h : LinesOk N ts) (hl : InB N last) :
    Safe N (fun p => InB N p.2) (expectIdent last ts) := by
  fun_cases expectIdent last ts
  · exact Safe.ok h.tail h.head
  · exact Safe.error (lineOf_ok h hl)

theorem expectKw_safe {N : Nat} (kw : String) {last : Nat} {ts : List LTok} (h : LinesOk N ts) (hl : InB N last) :
    Safe N (fun l => InB N l) (expectKw kw last ts) := by
  fun_cases expectKw kw last ts
  · exact Safe.ok h.tail h.head
  · exact Safe.error h.head
  · exact Safe.error (lineOf_ok h hl)

theorem expectNum_safe {N last : Nat} {ts : List LTok} (h : LinesOk N ts) (hl : InB N last) :
    Safe N (fun _ => True) (expectNum last ts) := by
  fun_cases expectNum last ts
  · exact Safe.ok h.tail trivial
  · exact Safe.error (lineOf_ok h hl)

/-! ## the productions

Each proof follows the `do` block of its parser, one `Safe.bind` per `←`: the bound variables are
the value, the remaining tokens, `LinesOk` of those, and what is known of the value. -/

/-! ### the lines kept inside parsed nodes (cited later by errors of the elaboration stage) -/

/-- a type expression keeps the line of every user-type name -/
def TyOk (N : Nat) : PTy → Prop
  | .named _ l => InB N l
  | .arr t _ => TyOk N t
  | .dyn t => TyOk N t
  | .opt t => TyOk N t
  | _ => True

def FieldOk (N : Nat) (f : PField) : Prop := InB N f.line ∧ TyOk N f.ty

/-- every line a declaration carries for later diagnostics is a line of the source -/
def DeclOk (N : Nat) : PDecl → Prop
  | .struct _ fs _ => ∀ f ∈ fs, FieldOk N f
  | .enum _ items l => InB N l ∧ ∀ it ∈ items, InB N it.2.2
  | .service _ _ ms l => InB N l ∧ ∀ m ∈ ms, InB N m.line
  | .mod _ l => InB N l
  | _ => True

def FileOk (N : Nat) (pf : PFile) : Prop := InB N pf.versionLine ∧ ∀ d ∈ pf.decls, DeclOk N d

theorem numericType_ok (s : String) (t : PTy) (h : numericType s = some t) (N : Nat) : TyOk N t := by
  revert h
  fun_cases numericType s <;> intro h <;> cases h
  split <;> trivial

theorem parseType_safe {N : Nat} (f last : Nat) (ts : List LTok) (h : LinesOk N ts) (hl : InB N last) :
    Safe N (TyOk N) (parseType f last ts) := by
  fun_induction parseType f last ts
  case case1 | case10 => exact Safe.error (lineOf_ok h hl)
  case case2 ih =>
    refine (ih h.tail h.head).bind fun t r1 hr1 ht => ?_
    dsimp only
    split
    · exact Safe.ok hr1.tail ht
    · exact (expectNum_safe hr1.tail hr1.head).bind fun _ _ hr3 _ =>
        (expectSym_safe ']' hr3 hr1.head).bind fun _ _ hr4 _ => Safe.ok hr4 ht
    · exact Safe.error (lineOf_ok hr1 h.head)
  case case3 ih =>
    exact (ih h.tail.tail h.tail.head).bind fun t _ hr2 ht =>
      (expectSym_safe ']' hr2 h.tail.head).bind fun _ _ hr3 _ => Safe.ok hr3 ht
  case case4 | case9 => exact Safe.ok h.tail h.head
  case case5 | case6 | case7 => exact Safe.ok h.tail trivial
  case case8 => exact Safe.ok h.tail (numericType_ok _ _ ‹_› N)

/-- the items of an array are safe as soon as values are, at the same value fuel -/
theorem parseItems_safe_of {N : Nat} (f : Nat)
    (hv : ∀ (last : Nat) (ts : List LTok), LinesOk N ts → InB N last → Safe N (fun _ => True) (parseValue f last ts)) :
    ∀ (g last : Nat) (ts : List LTok), LinesOk N ts → InB N last →
    Safe N (fun _ => True) (parseValue.parseItems f g last ts) := by
  intro g
  induction g with
  | zero => intro last ts h hl; unfold parseValue.parseItems; exact Safe.error (lineOf_ok h hl)
  | succ g ih =>
    intro last ts h hl
    unfold parseValue.parseItems
    refine (hv last ts h hl).bind fun v r1 hr1 _ => ?_
    dsimp only
    split
    · exact (ih _ _ hr1.tail hr1.head).bind fun _ _ hr3 _ => Safe.ok hr3 trivial
    · exact Safe.ok hr1.tail trivial
    · exact Safe.error (lineOf_ok hr1 hl)

theorem parseValue_safe {N : Nat} : ∀ (f last : Nat) (ts : List LTok), LinesOk N ts → InB N last →
    Safe N (fun _ => True) (parseValue f last ts) := by
  intro f
  induction f with
  | zero => intro last ts h hl; unfold parseValue; exact Safe.error (lineOf_ok h hl)
  | succ f ih =>
    intro last ts h hl
    unfold parseValue
    split
    · exact Safe.ok h.tail trivial
    · exact Safe.ok h.tail trivial
    · exact Safe.ok h.tail trivial
    · exact (parseItems_safe_of f ih f _ _ h.tail h.head).bind fun _ _ hr1 _ => Safe.ok hr1 trivial
    · exact Safe.error (lineOf_ok h hl)

theorem parseItems_safe {N : Nat} : ∀ (f g last : Nat) (ts : List LTok), LinesOk N ts → InB N last →
    Safe N (fun _ => True) (parseValue.parseItems f g last ts) :=
  fun f => parseItems_safe_of f (parseValue_safe f)

theorem parseArgs_safe {N : Nat} (vf g last : Nat) (ts : List LTok) (h : LinesOk N ts) (hl : InB N last) :
    Safe N (fun _ => True) (parseArgs vf g last ts) := by
  fun_induction parseArgs vf g last ts
  case case1 => exact Safe.error (lineOf_ok h hl)
  case case2 => exact Safe.ok h.tail trivial
  case case3 ih =>
    exact (parseValue_safe vf _ _ h hl).bind fun _ _ hr1 _ =>
      (ih _ (skipSym_ok ',' hr1) hl).bind fun _ _ hr3 _ => Safe.ok hr3 trivial

theorem parseParams_safe {N : Nat} (vf g last : Nat) (ts : List LTok) (h : LinesOk N ts) (hl : InB N last) :
    Safe N (fun _ => True) (parseParams vf g last ts) := by
  fun_induction parseParams vf g last ts
  case case1 => exact Safe.error (lineOf_ok h hl)
  case case2 ih =>
    exact (parseArgs_safe vf _ _ _ h.tail.tail h.head).bind fun _ _ hr1 _ =>
      (ih _ (skipSym_ok '|' hr1) h.head).bind fun _ _ hr3 _ => Safe.ok hr3 trivial
  case case3 => exact Safe.ok h trivial

theorem parseFields_safe {N : Nat} (vf g last : Nat) (ts : List LTok) (h : LinesOk N ts) (hl : InB N last) :
    Safe N (fun fs => ∀ f ∈ fs, FieldOk N f) (parseFields vf g last ts) := by
  fun_induction parseFields vf g last ts
  case case1 => exact Safe.error (lineOf_ok h hl)
  case case2 => exact Safe.ok h (by simp)
  case case3 ih =>
    exact (expectIdent_safe h hl).bind fun _ _ hr1 hp =>
      (expectSym_safe '@' hr1 hp).bind fun _ _ hr2 _ =>
      (expectNum_safe hr2 hp).bind fun _ _ hr3 _ =>
      (expectSym_safe ':' hr3 hp).bind fun _ _ hr4 _ =>
      (parseType_safe vf _ _ hr4 hp).bind fun _ _ hr5 hty =>
      (parseParams_safe vf _ _ _ (skipSym_ok '|' hr5) hp).bind fun _ _ hr7 _ =>
      (expectSym_safe ',' hr7 hp).bind fun _ _ hr8 _ =>
      (ih _ _ hr8 hp).bind fun _ _ hr9 hfs => Safe.ok hr9 (List.forall_mem_cons.2 ⟨⟨hp, hty⟩, hfs⟩)

theorem parseEnumItems_safe {N : Nat} (vf g last : Nat) (ts : List LTok) (h : LinesOk N ts) (hl : InB N last) :
    Safe N (fun es => ∀ x ∈ es, InB N x.2.2) (parseEnumItems vf g last ts) := by
  fun_induction parseEnumItems vf g last ts
  case case1 => exact Safe.error (lineOf_ok h hl)
  case case2 => exact Safe.ok h (by simp)
  case case3 ih =>
    exact (expectIdent_safe h hl).bind fun _ _ hr1 hp =>
      (expectSym_safe '=' hr1 hp).bind fun _ _ hr2 _ =>
      (parseValue_safe vf _ _ hr2 hp).bind fun _ _ hr3 _ =>
      (expectSym_safe ',' hr3 hp).bind fun _ _ hr4 _ =>
      (ih _ _ hr4 hp).bind fun _ _ hr5 hes => Safe.ok hr5 (List.forall_mem_cons.2 ⟨hp, hes⟩)

theorem parseExtFields_safe {N : Nat} (vf g last : Nat) (ts : List LTok) (h : LinesOk N ts) (hl : InB N last) :
    Safe N (fun _ => True) (parseExtFields vf g last ts) := by
  fun_induction parseExtFields vf g last ts
  case case1 => exact Safe.error (lineOf_ok h hl)
  case case2 => exact Safe.ok h trivial
  case case3 ih =>
    exact (expectIdent_safe h hl).bind fun _ _ hr1 hp =>
      (expectSym_safe ':' hr1 hp).bind fun _ _ hr2 _ =>
      (parseValue_safe vf _ _ hr2 hp).bind fun _ _ hr3 _ =>
      (expectSym_safe ',' hr3 hp).bind fun _ _ hr4 _ =>
      (ih _ _ hr4 hp).bind fun _ _ hr5 _ => Safe.ok hr5 trivial

theorem parseImplItems_safe {N : Nat} (vf g last : Nat) (ts : List LTok) (h : LinesOk N ts) (hl : InB N last) :
    Safe N (fun _ => True) (parseImplItems vf g last ts) := by
  fun_induction parseImplItems vf g last ts
  case case1 => exact Safe.error (lineOf_ok h hl)
  case case2 => exact Safe.ok h trivial
  case case3 ih =>
    refine (parseExtFields_safe vf _ _ _ h.tail.tail.tail h.head).bind fun fs r1 hr1 _ => ?_
    dsimp only
    split
    · exact Safe.error h.head
    · exact (expectSym_safe '}' hr1 h.head).bind fun _ _ hr2 _ =>
        (expectSym_safe ',' hr2 h.head).bind fun _ _ hr3 _ =>
        (ih _ hr3 h.head).bind fun _ _ hr4 _ => Safe.ok hr4 trivial
  case case4 ih =>
    exact (expectIdent_safe h hl).bind fun _ _ hr1 hp =>
      (expectSym_safe ':' hr1 hp).bind fun _ _ hr2 _ =>
      (parseValue_safe vf _ _ hr2 hp).bind fun _ _ hr3 _ =>
      (expectSym_safe ',' hr3 hp).bind fun _ _ hr4 _ =>
      (ih _ _ hr4 hp).bind fun _ _ hr5 _ => Safe.ok hr5 trivial

theorem parseMethods_safe {N : Nat} (g last : Nat) (ts : List LTok) (h : LinesOk N ts) (hl : InB N last) :
    Safe N (fun ms => ∀ m ∈ ms, InB N m.line) (parseMethods g last ts) := by
  fun_induction parseMethods g last ts
  case case1 => exact Safe.error (lineOf_ok h hl)
  case case2 => exact Safe.ok h (by simp)
  case case3 ih =>
    exact (expectKw_safe "method" h hl).bind fun _ _ hr0 hl =>
      (expectIdent_safe hr0 hl).bind fun _ _ hr1 _ =>
      (expectSym_safe '(' hr1 hl).bind fun _ _ hr2 _ =>
      (expectIdent_safe hr2 hl).bind fun _ _ hr3 _ =>
      (expectSym_safe ')' hr3 hl).bind fun _ _ hr4 _ =>
      (expectSym_safe '@' hr4 hl).bind fun _ _ hr5 _ =>
      (expectNum_safe hr5 hl).bind fun _ _ hr6 _ =>
      (expectKw_safe "returns" hr6 hl).bind fun _ _ hr7 _ =>
      (expectIdent_safe hr7 hl).bind fun _ _ hr8 _ =>
      (expectSym_safe ',' hr8 hl).bind fun _ _ hr9 _ =>
      (ih _ _ hr9 hl).bind fun _ _ hr10 hms => Safe.ok hr10 (List.forall_mem_cons.2 ⟨hl, hms⟩)

theorem parseModPath_safe {N : Nat} (g last : Nat) (ts : List LTok) (h : LinesOk N ts) (hl : InB N last) :
    Safe N (fun _ => True) (parseModPath g last ts) := by
  fun_induction parseModPath g last ts
  case case1 => exact Safe.error (lineOf_ok h hl)
  case case2 ih =>
    refine (expectIdent_safe h hl).bind fun _ r1 hr1 hp => ?_
    dsimp only
    split
    · exact (ih _ _ hr1.tail hp).bind fun _ _ hr3 _ => Safe.ok hr3 trivial
    · exact Safe.ok hr1 trivial

theorem parseDecl_safe {N : Nat} (last : Nat) (ts : List LTok) (h : LinesOk N ts) (hl : InB N last) :
    Safe N (DeclOk N) (parseDecl last ts) := by
  fun_cases parseDecl last ts
  case case1 => -- struct
    have hd := h.head
    refine (expectIdent_safe h.tail hd).bind fun _ _ hr1 _ =>
      (expectSym_safe '{' hr1 hd).bind fun _ _ hr2 _ =>
      (parseFields_safe _ _ _ _ hr2 hd).bind fun fs r3 hr3 hfs => ?_
    dsimp only
    split
    · exact Safe.error (lineOf_ok hr3 hd)
    · exact (expectSym_safe '}' hr3 hd).bind fun _ _ hr4 _ => Safe.ok hr4 hfs
  case case2 => -- enum
    have hd := h.head
    exact (expectIdent_safe h.tail hd).bind fun _ _ hr1 _ =>
      (expectSym_safe '{' hr1 hd).bind fun _ _ hr2 _ =>
      (parseEnumItems_safe _ _ _ _ hr2 hd).bind fun _ _ hr3 hes =>
      (expectSym_safe '}' hr3 hd).bind fun _ _ hr4 _ => Safe.ok hr4 ⟨hd, hes⟩
  case case3 l _ =>
    -- impl: the optional `as` and name leave tokens within bounds, whichever way the `match` goes
    have hd := h.head
    have key : ∀ (a b : String) (nm : Option String) (r5 : List LTok), LinesOk N r5 → Safe N (DeclOk N) (do
        let (_, r6) ← expectSym '{' l r5
        let (is, r7) ← parseImplItems (2 * r6.length + 2) (r6.length + 1) l r6
        if is.isEmpty then (.error ⟨"impl needs a field", lineOf r7 l⟩ : Except SynErr (PDecl × List LTok)) else
        let (_, r8) ← expectSym '}' l r7
        .ok (.impl a b nm is l, r8)) := fun _ _ _ r5 hr5 =>
      (expectSym_safe '{' hr5 hd).bind fun _ _ hr6 _ =>
      (parseImplItems_safe _ _ _ _ hr6 hd).bind fun is r7 hr7 _ => by
        dsimp only
        split
        · exact Safe.error (lineOf_ok hr7 hd)
        · exact (expectSym_safe '}' hr7 hd).bind fun _ _ hr8 _ => Safe.ok hr8 trivial
    refine (expectIdent_safe h.tail hd).bind fun _ _ hr1 _ =>
      (expectKw_safe "for" hr1 hd).bind fun _ _ hr2 _ =>
      (expectIdent_safe hr2 hd).bind fun _ r3 hr3 _ => ?_
    have hr4 := skipKw_ok "as" hr3 (N := N)
    dsimp only
    split
    · next heq => rw [heq] at hr4; exact key _ _ _ _ hr4.tail
    · exact key _ _ _ _ hr4
  case case4 => -- service
    have hd := h.head
    refine (expectIdent_safe h.tail hd).bind fun _ _ hr1 _ =>
      (expectSym_safe '@' hr1 hd).bind fun _ _ hr2 _ =>
      (expectNum_safe hr2 hd).bind fun _ _ hr3 _ =>
      (expectSym_safe '{' hr3 hd).bind fun _ _ hr4 _ =>
      (parseMethods_safe _ _ _ hr4 hd).bind fun ms r5 hr5 hms => ?_
    dsimp only
    split
    · exact Safe.error (lineOf_ok hr5 hd)
    · exact (expectSym_safe '}' hr5 hd).bind fun _ _ hr6 _ => Safe.ok hr6 ⟨hd, hms⟩
  case case5 => -- device
    have hd := h.head
    refine (expectIdent_safe h.tail hd).bind fun _ _ hr1 _ =>
      (expectSym_safe '{' hr1 hd).bind fun _ _ hr2 _ =>
      (parseExtFields_safe _ _ _ _ hr2 hd).bind fun fs r3 hr3 _ => ?_
    dsimp only
    split
    · exact Safe.error (lineOf_ok hr3 hd)
    · exact (expectSym_safe '}' hr3 hd).bind fun _ _ hr4 _ => Safe.ok hr4 trivial
  case case6 => -- mod
    have hd := h.head
    exact (parseModPath_safe _ _ _ h.tail hd).bind fun _ _ hr1 _ =>
      (expectSym_safe ';' hr1 hd).bind fun _ _ hr2 _ => Safe.ok hr2 hd
  case case7 => exact Safe.error (lineOf_ok h hl)

/-! ## declarations, file, text: results without remaining tokens -/

theorem parseDecls_safe {N : Nat} : ∀ (g last : Nat) (ts : List LTok), LinesOk N ts → InB N last →
    SafeR N (fun ds => ∀ d ∈ ds, DeclOk N d) (parseDecls g last ts)
  | 0, _, _, _, hl => .error hl
  | _+1, _, [], _, _ => .ok (by simp)
  | g+1, last, t :: r, h, hl =>
    (parseDecl_safe last _ h hl).toR.bind fun _ hd =>
    (parseDecls_safe g _ _ hd.1 h.head).bind fun _ hds =>
    .ok (List.forall_mem_cons.2 ⟨hd.2, hds⟩)

theorem parseFile_safe {N : Nat} (ts : List LTok) (h : LinesOk N ts) (hN : 1 ≤ N) : SafeR N (FileOk N) (parseFile ts) :=
  (expectKw_safe "version" h ⟨Nat.le_refl 1, hN⟩).toR.bind fun _ h0 =>
  (expectSym_safe ':' h0.1 h0.2).toR.bind fun (_, r1) h1 => by
    have hr1 : LinesOk N r1 := h1.1
    dsimp only
    split
    · exact (parseDecls_safe _ _ _ hr1.tail h0.2).bind fun _ hds => .ok ⟨h0.2, hds⟩
    · exact .error (lineOf_ok hr1 h0.2)

/-- every line the reference front end cites for a lexical or syntax error, and every line kept in
a parsed file, exists in the source: between 1 and the number of lines -/
theorem parseText_safe (src : String) : SafeR (1 + nl src.toList) (FileOk (1 + nl src.toList)) (parseText src) :=
  SafeR.bind (Q := LinesOk _) ⟨(lex_lines src).2, (lex_lines src).1⟩ fun ts h =>
    parseFile_safe ts h (Nat.le_add_right 1 _)

/-- **every line the reference front end cites for a lexical or syntax error exists in the
source**: between 1 and the number of lines -/
theorem parseText_lines (src : String) (e : SynErr) (he : parseText src = .error e) :
    1 ≤ e.line ∧ e.line ≤ 1 + nl src.toList :=
  (parseText_safe src).1 e he

/-- **every line kept in a parsed file exists in the source** (version line, declaration lines,
field lines, lines of type names, enumerator and method lines, `mod` lines) -/
theorem parseText_ok (src : String) (pf : PFile) (he : parseText src = .ok pf) :
    FileOk (1 + nl src.toList) pf :=
  (parseText_safe src).2 pf he

end Fcp.Syntax
