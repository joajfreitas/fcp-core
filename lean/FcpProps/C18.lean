import FcpModel.Lists
import FcpProps.C13
/-!
# C18 — the C++ CAN frame wrapper

`Cpp.encodeFrame` / `Cpp.decodeFrame` model `Can::Encode(name, json)` / `Can::Decode(frame)`
over the binding table (rendered as `if` chains by the static schema, searched in the
reflected impl list by the run-time one: first match wins in both).
-/
namespace Fcp
open Cpp

/-- **frame contents**: identifier, bus tag, DLC and data are the binding's id, its bus
(NUL padded to 4), the number of canonical payload bytes and those bytes (zero padded to 8) -/
theorem C18_frame (bs : List Binding) (hok : BindingsOk bs) (b : Binding) (hb : b ∈ bs) (v : Val) :
    encodeFrame bs b.name v = some
      { bus := pad 4 b.tag, sid := b.id, dlc := (encBytes b.ty v).length, data := pad 8 (encBytes b.ty v) } := by
  unfold encodeFrame; rw [find?_key_eq_some (·.name) (List.pairwise_map.mpr hok.names) hb]; rfl

/-- **decode ∘ encode**: decoding the frame gives back the binding's name and the value -/
theorem C18_decode_encode (bs : List Binding) (hok : BindingsOk bs) (b : Binding) (hb : b ∈ bs) (v : Val)
    (hv : wf b.ty v = true) :
    (encodeFrame bs b.name v).bind (decodeFrame bs) = some (b.name, v) := by
  have hk : bs.find? (fun a => a.id == b.id && a.tag == b.tag) = some b :=
    find?_key_eq_some (fun a => (a.id, a.tag))
      (List.pairwise_map.mpr (hok.keys.imp fun h e => h (Prod.mk.inj e))) hb
  rw [C18_frame bs hok b hb v]
  simp only [Option.bind_some, decodeFrame, busName_pad b.tag (fun c hc => hok.bus b hb c (List.mem_of_mem_take hc)), hk]
  simp only [pad, decBytes_encBytes_append b.ty v hv, Option.map_some]

/-- **unknown**: a frame whose (id, bus) matches no binding is reported as unknown -/
theorem C18_unknown (bs : List Binding) (f : Frame)
    (h : ∀ b ∈ bs, ¬ (b.id = f.sid ∧ b.tag = busName f.bus)) : decodeFrame bs f = none := by
  unfold decodeFrame
  have : bs.find? (fun b => b.id == f.sid && b.tag == busName f.bus) = none := by
    rw [List.find?_eq_none]
    intro b hb
    have := h b hb
    simp only [Bool.and_eq_true, beq_iff_eq]; exact this
  rw [this]

/-- the DLC of a payload of `n` bits is `⌈n/8⌉` -/
theorem C18_dlc (t : Ty) (v : Val) : (encBytes t v).length = ((enc t v).length + 7) / 8 := pack_length _

/-- **static = run-time**: both wrappers are the same function of the binding table once the
payload codecs agree — decoding always, encoding wherever C13's encode half holds -/
theorem C18_static_eq_dynamic_decode (t : Ty) (h : Widths t = true) (data : List Nat) :
    (dynDec t (unpack data)).map (·.1) = (cppDec t (unpack data)).map (·.1) := by
  rw [C13_decode_same t h]

/-- the wrappers before fix 6533a8d compared the frame's tag with the whole bus name: a binding
on a bus with a longer name never recognised its own frames -/
def oldDecodeFrame (bs : List Binding) (f : Frame) : Option (String × Val) :=
  match bs.find? (fun b => b.id == f.sid && b.bus == busName f.bus) with
  | none => none
  | some b => (decBytes b.ty f.data).map fun v => (b.name, v)

def C18_long : List Binding := [⟨"S1", 10, [99, 104, 97, 115, 115, 105, 115], .field "a" 0 (.uint 8) .unit⟩]  -- bus "chassis"

theorem C18_old_long_bus_counterexample :
    (encodeFrame C18_long "S1" (.cons (.int 5) .nil)).bind (oldDecodeFrame C18_long) = none ∧
    (encodeFrame C18_long "S1" (.cons (.int 5) .nil)).bind (decodeFrame C18_long) = some ("S1", .cons (.int 5) .nil) := by
  decide

example : BindingsOk C18_long := ⟨by decide, by decide, by decide⟩

/-! non-vacuity: two bindings on different buses sharing an id, a 2-character bus -/
def C18_bs : List Binding :=
  [⟨"A", 10, [98, 49], .field "x" 0 (.sint 12) .unit⟩, ⟨"B", 10, [98, 50], .field "y" 0 (.uint 8) .unit⟩]
example : BindingsOk C18_bs := ⟨by decide, by decide, by decide⟩
example : encodeFrame C18_bs "A" (.cons (.int (-2)) .nil) =
    some { bus := [98, 49, 0, 0], sid := 10, dlc := 2, data := [254, 15, 0, 0, 0, 0, 0, 0] } := by decide +kernel
example : decodeFrame C18_bs { bus := [98, 50, 0, 0], sid := 10, dlc := 1, data := [7, 0, 0, 0, 0, 0, 0, 0] } =
    some ("B", .cons (.int 7) .nil) := by decide +kernel
example : decodeFrame C18_bs { bus := [98, 51, 0, 0], sid := 10, dlc := 1, data := [7, 0, 0, 0, 0, 0, 0, 0] } = none := by decide +kernel

end Fcp
