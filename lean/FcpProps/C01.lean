import FcpModel.PyCodecRefine
/-!
# C01 — Python codec round trip

`pyEncode`/`pyDecode` are the transliteration of `fcp.serde.encode/decode` over the
byte-level `_Buffer`.  For every schema, every struct that resolves (at any fuel, i.e.
any nesting depth), and every in-range value, decoding the encoded bytes returns the
value.  No bound on widths, nesting, lengths or alignment: the bit cursor is arbitrary
at every field because the underlying lemmas carry an arbitrary prefix and suffix.
-/
namespace Fcp

/-- **C01**: `decode(encode(v)) = v` -/
theorem C01_roundtrip (S : Schema) (fuel : Nat) (name : String) (ty : Ty) (v : Val)
    (hr : resolve S fuel (.struct name) = some ty) (hv : wf ty v = true) :
    ∃ bytes, pyEncode S fuel name v = .ok bytes ∧ pyDecode S fuel name bytes = .ok v :=
  ⟨encBytes ty v, pyEncode_refines S fuel name ty v hr hv, pyDecode_encBytes S fuel name ty v hr hv⟩

/-- **every text is in range**: a string value is the UTF-8 bytes of its characters; whatever the
characters (Unicode scalar values — Python cannot encode a lone surrogate), it is in the codec's
domain as long as it has fewer than 2^32 bytes.  So the round trip holds for all strings, not for
a 7-bit subset -/
theorem C01_every_text (cs : List Nat) (hc : cs.all isScalar = true) (hl : (utf8Bytes cs).length < 2 ^ 32) :
    wf .str (.str (utf8Bytes cs)) = true := by
  simp only [wf, Bool.and_eq_true, decide_eq_true_eq]
  exact ⟨hl, utf8Bytes_valid cs hc⟩

/-- non-vacuity: `"°C €"` with the smiling face, as a struct field between two sub-byte fields -/
example : wf (.field "a" 0 (.uint 3) (.field "s" 1 .str (.field "b" 2 (.uint 5) .unit)))
    (.cons (.int 5) (.cons (.str (utf8Bytes [0xB0, 0x43, 0x20, 0x20AC, 0x1F600])) (.cons (.int 17) .nil))) = true := by
  decide +kernel

/-- the encoder never fails on an in-range value and its output has `⌈bits/8⌉` bytes -/
theorem C01_encode_total (S : Schema) (fuel : Nat) (name : String) (ty : Ty) (v : Val)
    (hr : resolve S fuel (.struct name) = some ty) (hv : wf ty v = true) :
    ∃ bytes, pyEncode S fuel name v = .ok bytes ∧ bytes.length = ((enc ty v).length + 7) / 8 :=
  ⟨encBytes ty v, pyEncode_refines S fuel name ty v hr hv, pack_length _⟩

/-- byte-level `_Buffer`: a `push_word` on a buffer that represents the bit string `B`
yields a buffer that represents `B` followed by the two's-complement bits of the word -/
theorem C01_buffer_push (b : Buf) (B : Bits) (h : BufRep b B) (w : Int) (n : Nat) :
    ∃ b', b.pushWord w n = .ok b' ∧ BufRep b' (B ++ natBits n (toTwos n w)) :=
  pushWord_rep h w n

/-- byte-level `_Buffer`: `read_word` returns the addressed bits, or overruns exactly
when fewer than `n` bits remain -/
theorem C01_buffer_read (b : Buf) (n : Nat) :
    b.readWord n = match readN n b.bits with
      | none => .error .overrun
      | some (x, _) => .ok (x, { b with bitaddr := b.bitaddr + n }) :=
  readWord_spec b n

/-- two's complement: signed decode inverts signed encode on the whole range, including
the minimum `-2^(n-1)` -/
theorem C01_signed_boundary (n : Nat) (hn : 0 < n) :
    pySigned n (toTwos n (-(2 ^ (n - 1) : Int))) = -(2 ^ (n - 1) : Int) := by
  have h : inRangeS n (-(2 ^ (n - 1) : Int)) := by
    constructor
    · omega
    · have : (0 : Int) < 2 ^ (n - 1) := Int.pow_pos (by omega)
      omega
  exact ofTwos_toTwos n hn _ h

/-! ### recorded finding (open): the code as it stands decodes the signed minimum wrongly

The model above is the property-satisfying codec (`>=` in `_decode_builtin_signed`).  The
shipped code compares with `>`; that version is transcribed here and shown to violate the
round trip on the witness replayed by the harness.  The repair cannot be committed because
the repository's own test `test_roundtrip_decoding_8_byte_types` demands the opposite on the
same bit pattern (see known_findings.json). -/

/-- `_decode_builtin_signed` as shipped: `if word > max / 2` -/
def pySignedAsIs (length : Nat) (word : Nat) : Int :=
  if 2 * word > 2 ^ length then (word : Int) - 2 ^ length else word

theorem C01_signed_min_counterexample : pySignedAsIs 8 (toTwos 8 (-128)) = 128 := by decide

/-- the open finding `negative-enumerator`: an enum field is packed as an *unsigned* field of the
bit length of the largest enumerator (`_encode_enum` = `push_word(value, packed_size)`).  For
`enum E { A = -1, B = 3 }` that is 2 bits: the enumerator −1 is written as its low two bits and
read back as 3, another enumerator.  The schema is accepted, the value is in range, and
`decode (encode v) ≠ v`; `wf` excludes exactly this (an enum value lies in `0 .. 2^bits − 1`) -/
theorem C01_negative_enumerator_counterexample :
    bitsNat (natBits 2 (toTwos 2 (-1))) = 3 ∧ ((3 : Nat) : Int) ≠ -1 ∧
      wf (.field "e" 0 (.enum 2) .unit) (.cons (.int (-1)) .nil) = false := by decide

/-- … and it is the only value on which the shipped decoder differs from the model -/
theorem C01_asis_differs_only_at_min (n : Nat) (w : Nat) (h : 2 * w ≠ 2 ^ n) :
    pySignedAsIs n w = pySigned n w := by
  -- off the boundary `>` and `≥` are the same test
  simp only [pySignedAsIs, pySigned, gt_iff_lt, ge_iff_le, Nat.lt_iff_le_and_ne, ne_eq, h.symm,
    not_false_eq_true, and_true]

/-! non-vacuity: a struct `u3, f32, str, [i5], Optional[[u7,2]]`, ids out of declaration
order, with the minimum signed value — the hypotheses are satisfiable -/
def C01_S : Schema := { structs := [{ name := "A", fields := [
  { name := "o", id := 9, ty := .opt (.arr (.u 7) 2) },
  { name := "a", id := 1, ty := .u 3 },
  { name := "f", id := 2, ty := .f32 },
  { name := "s", id := 3, ty := .str },
  { name := "d", id := 4, ty := .dyn (.i 5) }] }] }
def C01_T : Ty := .field "a" 1 (.uint 3) (.field "f" 2 .f32 (.field "s" 3 .str
  (.field "d" 4 (.dyn (.sint 5)) (.field "o" 9 (.opt (.arr (.uint 7) 2)) .unit))))
def C01_V : Val := .cons (.int 5) (.cons (.int 0xBF800000) (.cons (.str [104, 105])
  (.cons (.cons (.int (-16)) (.cons (.int 15) .nil))
  (.cons (.some (.cons (.int 127) (.cons (.int 0) .nil))) .nil))))
example : resolve C01_S 5 (.struct "A") = some C01_T ∧ wf C01_T C01_V = true := by decide +kernel
example : (pyEncode C01_S 5 "A" C01_V).toOption =
    some [5, 0, 0, 252, 21, 0, 0, 0, 64, 75, 19, 0, 0, 0, 128, 47, 224, 15, 0] := by decide +kernel

end Fcp
