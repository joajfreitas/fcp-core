import FcpModel.Dbc
import FcpModel.Verifier
/-!
# C14 — CAN messages that do not fit a frame are rejected, never truncated
-/
namespace Fcp

/-- a binding whose struct has a variable-size field (string, dynamic array, optional — at
any depth, in any position) has no layout -/
theorem C14_variable_no_layout (S : Schema) (fuel : Nat) (i : Impl) (ty : Ty)
    (hr : resolve S (fuel + 1) (.struct i.type) = some ty) (hv : staticBits ty = none) :
    generate S true fuel i = none := by
  cases hg : generate S true fuel i with
  | none => rfl
  | some r =>
    obtain ⟨ls, e⟩ := r
    have := generate_static S true fuel i ls e ty hg hr
    rw [hv] at this; cases this

/-- … and therefore DBC generation fails for it -/
theorem C14_variable_rejected_dbc (S : Schema) (fuel : Nat) (i : Impl) (ty : Ty)
    (hr : resolve S (fuel + 1) (.struct i.type) = some ty) (hv : staticBits ty = none) :
    dbcMessage S fuel i = .error .noLayout := by
  unfold dbcMessage
  rw [C14_variable_no_layout S fuel i ty hr hv]

/-- … and the C plug-in's verification rejects the schema when the binding is a CAN binding -/
theorem C14_variable_rejected_c (S : Schema) (fuel : Nat) (i : Impl) (ty : Ty) (hi : i ∈ S.impls)
    (hc : i.protocol = "can") (hr : resolve S (fuel + 1) (.struct i.type) = some ty)
    (hv : staticBits ty = none) : verifyModel .canC fuel S ≠ .ok () := by
  intro h
  obtain ⟨r, hg, _⟩ := verify_c_fits h hi hc
  rw [C14_variable_no_layout S fuel i ty hr hv] at hg
  cases hg

/-- a binding whose packed size exceeds 64 bits — wherever the excess sits — is rejected by
the DBC writer -/
theorem C14_oversize_rejected_dbc (S : Schema) (fuel : Nat) (i : Impl) (ls : List Leaf) (e : Nat)
    (hg : generate S true fuel i = some (ls, e)) (he : 64 < e) :
    ∃ err, dbcMessage S fuel i = .error err := by
  cases h : dbcMessage S fuel i with
  | error err => exact ⟨err, rfl⟩
  | ok m =>
    have := (dbcMessage_ok_fits hg h).1
    omega

/-- … and by the C plug-in's verification -/
theorem C14_oversize_rejected_c (S : Schema) (fuel : Nat) (i : Impl) (ls : List Leaf) (e : Nat)
    (hi : i ∈ S.impls) (hc : i.protocol = "can")
    (hg : generate S true fuel i = some (ls, e)) (he : 64 < e) :
    verifyModel .canC fuel S ≠ .ok () := by
  intro h
  obtain ⟨r, hr, hle⟩ := verify_c_fits h hi hc
  rw [hg] at hr
  cases hr
  exact absurd hle (Nat.not_le.mpr he)

/-- every emitted signal lies inside its message and non-overlapping: leaves tile `[0, e)`
with `e ≤ 8·dlc ≤ 64` -/
theorem C14_emitted_fit (S : Schema) (fuel : Nat) (i : Impl) (m : DbcMessage) (ls : List Leaf)
    (e : Nat) (hg : generate S true fuel i = some (ls, e)) (h : dbcMessage S fuel i = .ok m)
    (l : Leaf) (hl : l ∈ ls) :
    l.start + l.len ≤ 8 * m.dlc ∧ 8 * m.dlc ≤ 64 ∧
      ls.Pairwise (fun a b => a.start + a.len ≤ b.start) := by
  have ht := generate_tiles S true fuel i ls e hg
  obtain ⟨h1, h2, _⟩ := dbcMessage_ok_fits hg h
  have ⟨h3, h4⟩ := dlc_fits ⟨h1, h2⟩
  exact ⟨Nat.le_trans (ht.mem_range l hl).2 h3, Nat.mul_le_mul_left 8 h4, ht.pairwise_disjoint⟩

/-! non-vacuity: 65 bits are rejected, 64 are not -/
def C14_S (w : Nat) : Schema := {
  structs := [{ name := "A", fields := [{ name := "a", id := 0, ty := .u w }, { name := "b", id := 1, ty := .u 1 }] }],
  impls := [{ name := "A", protocol := "can", type := "A", fields := [("id", .int 1)], signals := [] }] }
example : (dbcMessage (C14_S 64) 5 (C14_S 64).impls.head!).toOption.isSome = false := by decide +kernel
example : (dbcMessage (C14_S 63) 5 (C14_S 63).impls.head!).toOption.isSome = true := by decide +kernel

end Fcp
