import FcpModel.CppCodec
/-!
# C13 — the schema loaded at run time from reflection behaves like the compiled one

Three links.  (1) the reflection binary carries the schema losslessly (C12's theorems:
`reflect` then `unchain` gives back every struct, field, type chain and enum), (2) the
run-time decoder walks the same type chain with one shared bit cursor, (3) the run-time
encoder writes into one shared buffer, every scalar through `PushWord` on a 64-bit carrier.

(2) and (3) are equalities with the generated codec for every type.  Until the repair
recorded in known_findings.json (`dynamic-encode-not-bit-packed`, fixed) the encoder padded
every piece to whole bytes; that behaviour is kept as `Cpp.oldDynEnc` with the counterexample
that witnessed the defect.
-/
namespace Fcp
open Cpp

/-- **decode, full**: the run-time decoder and the static decoder agree on every bit string,
for every supported type (signed negatives, sub-byte fields and every container included) -/
theorem C13_decode_same (t : Ty) (h : Widths t = true) (bs : Bits) : dynDec t bs = cppDec t bs := by
  rw [dynDec_eq t h, cppDec_eq t h]

/-- **encode, full**: the run-time encoder produces the bytes of the generated encoder, hence
the canonical bytes, for every type and every in-range value (sub-byte fields, signed
negatives and every container kind included) -/
theorem C13_encode_same (t : Ty) (v : Val) : pack (dynEnc t v) = pack (cppEnc t v) := by
  rw [dynEnc_eq_cppEnc]

theorem C13_encode_canonical (t : Ty) (v : Val) (h : wf t v = true) : pack (dynEnc t v) = encBytes t v := by
  rw [dynEnc_eq_cppEnc, cppEnc_eq t v h]; rfl

/-- the repaired defect, for the record: before the fix `struct { a: u3, b: u5 }` with
`{a: 5, b: 1}` encoded as `05 01` at run time and `0d` statically -/
theorem C13_old_encoder_counterexample :
    let t : Ty := .field "a" 0 (.uint 3) (.field "b" 1 (.uint 5) .unit)
    let v : Val := .cons (.int 5) (.cons (.int 1) .nil)
    wf t v = true ∧ pack (cppEnc t v) = [13] ∧ oldDynEnc t v = [5, 1] ∧ pack (dynEnc t v) = [13] := by decide

/-- enum width: the run-time formula `max(1, ⌈log₂(max+1)⌉)` is the static width -/
theorem C13_enum_width (m b : Nat) (hm : 1 ≤ m) (hb : 1 ≤ b) (h1 : 2 ^ (b - 1) < m + 1) (h2 : m + 1 ≤ 2 ^ b) :
    b = Nat.log2 m + 1 := by
  obtain ⟨k, rfl⟩ : ∃ k, b = k + 1 := ⟨b - 1, by omega⟩
  rw [Nat.add_sub_cancel] at h1
  rw [(Nat.log2_eq_iff (by omega)).mpr ⟨Nat.lt_succ_iff.mp h1, h2⟩]

/-- encode-then-decode through the run-time codec is the identity, for every supported type -/
theorem C13_dynamic_roundtrip (t : Ty) (v : Val) (hw : Widths t = true) (h : wf t v = true) :
    (dynDec t (unpack (pack (dynEnc t v)))).map (·.1) = some v := by
  rw [dynDec_eq t hw, dynEnc_eq_cppEnc, cppEnc_eq t v h]
  exact decBytes_encBytes t v h

/-! non-vacuity: signed negatives in sub-byte fields, nested containers -/
def C13_t : Ty := .field "a" 0 (.sint 3) (.field "b" 1 (.dyn (.opt (.sint 5))) .unit)
def C13_v : Val := .cons (.int (-4)) (.cons (.cons (.some (.int (-2))) (.cons .none .nil)) .nil)
example : wf C13_t C13_v = true ∧ Widths C13_t = true ∧ ByteGranular C13_t = false := by decide +kernel
example : pack (dynEnc C13_t C13_v) = [20, 0, 0, 0, 8, 240, 0] := by decide +kernel

end Fcp
