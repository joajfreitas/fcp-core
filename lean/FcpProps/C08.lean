import FcpModel.FrontendLemmas
/-!
# C08 — accepted schemas have no dangling or mis-kinded type references

`loadFile` is the reference front end: lexer, recursive-descent parser, the transformer's
actions in source order and module loading over an abstract file system.
-/
namespace Fcp
open Syntax Frontend

/-- **C08**: in every tree the front end accepts — for any file system, any root file and
any depth of `mod` imports — each user-type reference in a field, at any nesting depth
(arrays, dynamic arrays, optionals), resolves to a declared struct when tagged `Struct` and
to a declared enum when tagged `Enum` -/
theorem C08_no_dangling (fs : FS) (fuel : Nat) (path : List String) (src : String) (t : Tree)
    (h : loadFile fs fuel path src = .ok t) :
    ∀ st ∈ t.structs, ∀ f ∈ st.fields, RefsOk t f.ty :=
  loadFile_treeOk fs fuel path src t h

/-- the lookup that tags a reference: structs first, then enums, among what is declared so far -/
theorem C08_tag (t : Tree) (file s : String) (line : Nat) :
    elabType t file (.named s line) =
      if (t.getStruct s).isSome then .ok (.struct s)
      else if (t.getEnum s).isSome then .ok (.enum s)
      else .error [⟨"type-not-found", s!"Type '{s}' cannot be found.", some file, some line⟩] := by
  simp only [elabType]

/-- a reference — at any depth — to a name not declared before its use (forward, self or
undeclared: none of them is in the tree collected so far) is an error whose first message
names the type -/
theorem C08_undeclared (t : Tree) (file : String) (p : PTy) (s : String) (l : Nat)
    (h : leafNamed p = some (s, l)) (hs : t.getStruct s = none) (he : t.getEnum s = none) :
    ∃ rest, elabType t file p =
      .error (⟨"type-not-found", s!"Type '{s}' cannot be found.", some file, some l⟩ :: rest) :=
  elabType_undeclared_deep t file p s l h hs he

/-- … and the field's error chain ends by naming the enclosing struct -/
theorem C08_error_names_struct (t : Tree) (file sname : String) (f : PField) (s : String) (l : Nat)
    (hp : ∃ r, elabParams file f.line f.params = .ok r) (hid : ∃ i, pyInt? f.id = some i)
    (h : leafNamed f.ty = some (s, l)) (hs : t.getStruct s = none) (he : t.getEnum s = none) :
    ∃ mid, elabField t file sname f =
      .error (⟨"type-not-found", s!"Type '{s}' cannot be found.", some file, some l⟩ :: mid ++
        [⟨"field", s!"Failed to parse field in struct {sname}", none, none⟩]) :=
  elabField_undeclared t file sname f s l hp hid h hs he

/-- a struct is visible to later declarations only: while its own fields are elaborated it
is not yet in the tree (so a self reference is an undeclared reference) -/
theorem C08_self_reference (loader : List String → String → Except Err Tree) (fs : FS)
    (path : List String) (s : St) (name : String) (fields : List PField) (line : Nat)
    (e : Err) (h : fields.mapM (elabField s.tree (path.getLast?.getD "") name) = .error e) :
    (elabDecl loader fs path s (.struct name fields line)).tree = s.tree := by
  simp only [elabDecl, h]
  rfl

end Fcp
