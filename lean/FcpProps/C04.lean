import FcpModel.Layout
/-!
# C04 — the packed CAN layout tiles the message
-/
namespace Fcp

/-- **C04, tiling**: the leaves of any successfully computed layout occupy consecutive bit
ranges starting at bit 0 -/
theorem C04_tiles (S : Schema) (unroll : Bool) (fuel : Nat) (impl : Impl) (ls : List Leaf) (e : Nat)
    (h : generate S unroll fuel impl = some (ls, e)) : Tiles 0 ls e :=
  generate_tiles S unroll fuel impl ls e h

/-- no overlaps: every leaf ends before each later leaf starts -/
theorem C04_no_overlap (S : Schema) (unroll : Bool) (fuel : Nat) (impl : Impl) (ls : List Leaf)
    (e : Nat) (h : generate S unroll fuel impl = some (ls, e)) :
    ls.Pairwise (fun a b => a.start + a.len ≤ b.start) :=
  (generate_tiles S unroll fuel impl ls e h).pairwise_disjoint

/-- no gaps: every bit below the message length belongs to a leaf -/
theorem C04_no_gap (S : Schema) (unroll : Bool) (fuel : Nat) (impl : Impl) (ls : List Leaf)
    (e : Nat) (h : generate S unroll fuel impl = some (ls, e)) (p : Nat) (hp : p < e) :
    ∃ l ∈ ls, l.start ≤ p ∧ p < l.start + l.len :=
  (generate_tiles S unroll fuel impl ls e h).covers p ⟨Nat.zero_le _, hp⟩

/-- the message length is the sum of the leaf widths -/
theorem C04_total (S : Schema) (unroll : Bool) (fuel : Nat) (impl : Impl) (ls : List Leaf)
    (e : Nat) (h : generate S unroll fuel impl = some (ls, e)) : (ls.map (·.len)).sum = e := by
  have := (generate_tiles S unroll fuel impl ls e h).total
  omega

/-- each leaf's width is the wire width of its own type, its options are exactly the
signal block declared under its field's name (so a block named `f` never decorates a leaf
of a differently named field), and its byte order is read from those options -/
theorem C04_leaf_ok (S : Schema) (unroll : Bool) (fuel : Nat) (impl : Impl) (ls : List Leaf)
    (e : Nat) (h : generate S unroll fuel impl = some (ls, e)) (l : Leaf) (hl : l ∈ ls) :
    typeLength S l.ty = some l.len ∧ l.opts = impl.signalOpts l.field ∧
      l.endian = endianOf l.opts :=
  let ok := generate_ok S unroll fuel impl ls e h l hl
  ⟨ok.width, ok.opts, ok.endian⟩

/-- history independence: what `generate` returns does not depend on the encoder's state,
hence not on any earlier `generate` calls -/
theorem C04_history_indep (S : Schema) (unroll : Bool) (fuel : Nat) (e1 e2 : Encoder) (impl : Impl) :
    (e1.generate S unroll fuel impl).2 = (e2.generate S unroll fuel impl).2 := rfl

theorem C04_history (S : Schema) (unroll : Bool) (fuel : Nat) (hist : List Impl) (impl : Impl) :
    ((hist.foldl (fun (e : Encoder) i => (e.generate S unroll fuel i).1) ({} : Encoder)).generate S unroll fuel impl).2 =
      (({} : Encoder).generate S unroll fuel impl).2 := rfl

/-! non-vacuity: nested struct, enum of max 5 (3 bits), unrolled array with a signal block -/
def C04_S : Schema := {
  structs := [{ name := "I", fields := [{ name := "x", id := 0, ty := .u 5 }] },
              { name := "A", fields := [{ name := "b", id := 2, ty := .arr (.i 7) 2 },
                                        { name := "a", id := 1, ty := .enum "E" },
                                        { name := "c", id := 3, ty := .struct "I" }] }],
  enums := [{ name := "E", enumeration := [⟨"P", 0⟩, ⟨"Q", 5⟩] }],
  impls := [{ name := "A", protocol := "can", type := "A", fields := [("id", .int 10)],
              signals := [{ name := "b", fields := [("endianess", .str "big")] }] }] }
example : (generate C04_S true 5 C04_S.impls.head!).map
    (fun r => (r.1.map (fun l => (l.name, l.start, l.len, l.endian)), r.2)) =
    some ([("a", 0, 3, "little"), ("b_0", 3, 7, "big"), ("b_1", 10, 7, "big"),
           ("c::x", 17, 5, "little")], 22) := by decide +kernel

end Fcp
