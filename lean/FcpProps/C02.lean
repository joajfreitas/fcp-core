import FcpModel.PyCodecRefine
/-!
# C02 — the Python codec emits and accepts exactly the canonical wire format

`Wire.enc`/`dec` is the canonical format (fields in ascending id, LSB-first bit packing,
two's complement, IEEE words, u32 counts, u8 presence flag, zero padding in the last
byte only).  It is tied to the project's vectors by `Generated/Vectors.lean`
(regenerated from `tests/standardized/fcp_tests.json` on every run) and to the C++ code
by C03's correspondence.
-/
namespace Fcp

/-- **C02, encode direction**: the bytes the Python encoder produces are the canonical bytes -/
theorem C02_encode_canonical (S : Schema) (fuel : Nat) (name : String) (ty : Ty) (v : Val)
    (hr : resolve S fuel (.struct name) = some ty) (hv : wf ty v = true) :
    pyEncode S fuel name v = .ok (encBytes ty v) :=
  pyEncode_refines S fuel name ty v hr hv

/-- **C02, decode direction**: the Python decoder recovers the value from its canonical bytes -/
theorem C02_decode_canonical (S : Schema) (fuel : Nat) (name : String) (ty : Ty) (v : Val)
    (hr : resolve S fuel (.struct name) = some ty) (hv : wf ty v = true) :
    pyDecode S fuel name (encBytes ty v) = .ok v :=
  pyDecode_encBytes S fuel name ty v hr hv

/-- on *every* byte string the Python decoder agrees with the canonical decoder:
same value on success, an error exactly when the canonical decoder fails -/
theorem C02_decode_agrees (S : Schema) (fuel : Nat) (name : String) (ty : Ty) (bytes : List Nat)
    (hr : resolve S fuel (.struct name) = some ty) :
    match decBytes ty bytes with
    | some v => pyDecode S fuel name bytes = .ok v
    | none => ∃ e, pyDecode S fuel name bytes = .error e :=
  pyDecode_refines S fuel name ty bytes hr

/-! structural facts of the canonical format listed in the statement -/

/-- fields in order: a struct is the concatenation of its fields' encodings -/
theorem C02_field_order (n : String) (id : Int) (t r : Ty) (v vs : Val) :
    enc (.field n id t r) (.cons v vs) = enc t v ++ enc r vs := rfl

/-- scalars are bit-packed LSB first: bit `i` of the word is the `i`-th bit written -/
theorem C02_uint_lsb_first (n : Nat) (x : Nat) (i : Nat) (hi : i < n) :
    (enc (.uint n) (.int x))[i]? = some (x.testBit i) := by
  simp only [enc, Int.toNat_natCast]
  rw [natBits_getElem?, if_pos hi]

/-- two's complement integers -/
theorem C02_sint_twos (n : Nat) (i : Int) : enc (.sint n) (.int i) = natBits n (toTwos n i) := rfl

/-- a u32 count precedes strings and dynamic arrays -/
theorem C02_prefix_u32 (t : Ty) (v : Val) (cs : List Nat) :
    (enc (.dyn t) v).take 32 = natBits 32 (vlen v) ∧
    (enc .str (.str cs)).take 32 = natBits 32 cs.length := by
  simp [enc]

/-- a one-byte presence flag precedes optionals -/
theorem C02_opt_flag (t : Ty) (v : Val) :
    enc (.opt t) .none = natBits 8 0 ∧ (enc (.opt t) (.some v)).take 8 = natBits 8 1 := by
  simp [enc]

/-- no padding except in the last byte, where it is zero: unpacking the bytes gives the
bits followed by fewer than 8 zero bits -/
theorem C02_padding (t : Ty) (v : Val) :
    ∃ k, k < 8 ∧ unpack (encBytes t v) = enc t v ++ List.replicate k false :=
  ⟨_, unpack_pack_pad_lt _, unpack_pack _⟩

/-- the canonical encoding is injective on in-range values (two values never share bytes) -/
theorem C02_injective (t : Ty) (v w : Val) (hv : wf t v = true) (hw : wf t w = true)
    (h : enc t v = enc t w) : v = w := enc_injective t v w hv hw h

/-! non-vacuity: the `static_array_enum` vector of the project (`[S1,S2,S0,S1]` → 73) -/
example : encBytes (.field "s1" 0 (.arr (.enum 2) 4) .unit)
    (.cons (.cons (.int 1) (.cons (.int 2) (.cons (.int 0) (.cons (.int 1) .nil)))) .nil) = [73] := by
  decide +kernel

end Fcp
