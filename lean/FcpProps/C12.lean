import FcpModel.PyCodecRefine
import FcpModel.ReflRange
/-!
# C12 — reflection is a lossless, faithful description of the schema
-/
namespace Fcp
open Refl

/-- **lossless**: whenever the reflection record fits the reflection schema (`wf reflTy`),
serializing it with the Python codec and decoding the bytes returns the record.  `R` is any
schema in which struct `Fcp` resolves to `reflTy`; that the shipped reflection.fcp does is
re-checked by the kernel on every run (`Generated/ReflSchema.lean`). -/
theorem C12_lossless (R : Schema) (fuel : Nat) (hR : resolve R fuel (.struct "Fcp") = some reflTy)
    (S : RSchema) (hwf : wf reflTy (reflect S) = true) :
    ∃ bytes, pyEncode R fuel "Fcp" (reflect S) = .ok bytes ∧
      pyDecode R fuel "Fcp" bytes = .ok (reflect S) :=
  ⟨_, pyEncode_refines R fuel "Fcp" reflTy _ hR hwf, pyDecode_encBytes R fuel "Fcp" reflTy _ hR hwf⟩

/-- **faithful, type chains**: the flattened type chain of a field determines its type —
containers in nesting order with their sizes, the scalar family, user type names -/
theorem C12_chain_faithful (t : RTy) (h : leafNonNumeric t = true) : unchain (chain t) = some t :=
  unchain_chain t h

/-- the record lists every struct, enum, binding and service, in declaration order -/
theorem C12_lists_everything (S : RSchema) :
    reflect S = mkList [mkList [.int 0x66, .int 0x63, .int 0x70], .int S.version,
      mkList (S.structs.map structVal), mkList (S.enums.map enumVal),
      mkList (S.impls.map implVal), mkList (S.services.map serviceVal)] := rfl

/-- a field's record carries its name, id, type chain, unit and range exactly as declared -/
theorem C12_field_faithful (f : RField) :
    fieldVal f = mkList [.str f.name, .int f.id, mkList (chain f.ty), vOpt (f.unit.map Val.str),
      vOpt (f.min.map fun w => .int w), vOpt (f.max.map fun w => .int w), optMeta f.pos] := rfl

/-! non-vacuity: a schema whose record fits the reflection schema, and the recorded
counterexample outside it (negative field id, accepted by the parser) -/
def C12_F (id : Int) : RField :=
  { name := [120], id := id, ty := .arr (.opt (.enum [69])) 3, unit := some [86], min := some 0,
    max := none, pos := some ⟨2, 2, 5, 9, 20, 24, [109]⟩ }
def C12_I : RImpl :=
  { name := [65], protocol := [99], type := [65], fields := [([105, 100], XV.int (-7))],
    signals := [], pos := none }
def C12_S (id : Int) : RSchema :=
  { structs := [{ name := [65], pos := none, fields := [C12_F id] }], impls := [C12_I] }
example : wf reflTy (reflect (C12_S 1)) = true := by decide +kernel
theorem C12_negative_id_counterexample : wf reflTy (reflect (C12_S (-1))) = false := by decide

/-- the class of `C12_lossless`, described on the schema: the record fits reflection.fcp exactly
when ids are in `u32`, enumerators and positions in `i32`, the version in `u16`, texts valid UTF-8 and
lists shorter than 2^32 (`InReflRange` spells the bounds out declaration by declaration) -/
theorem C12_in_range_exact (S : RSchema) : wf reflTy (reflect S) = InReflRange S := wf_reflect S

/-- **lossless, on the schema**: every schema within those bounds round-trips -/
theorem C12_lossless_in_range (R : Schema) (fuel : Nat) (hR : resolve R fuel (.struct "Fcp") = some reflTy)
    (S : RSchema) (h : InReflRange S = true) :
    ∃ bytes, pyEncode R fuel "Fcp" (reflect S) = .ok bytes ∧
      pyDecode R fuel "Fcp" bytes = .ok (reflect S) :=
  C12_lossless R fuel hR S (by rw [wf_reflect]; exact h)

/-- the type part of the bounds holds for every type the language can write: widths and array
sizes below 2^32 − 2, UTF-8 type names, nesting shallower than 2^32 -/
theorem C12_types_in_range (t : RTy) (h : smallTy t = true) (hd : t.depth + 1 < 2^32) : okTy t = true :=
  okTy_of_small t h hd

example : InReflRange (C12_S 1) = true := by decide +kernel

/-- recorded finding `enumerator-beyond-i32`: an enumerator of 2^32 + 5 (accepted by parser and
verifier, 33 bits on the wire) leaves the class, and the bytes of its record decode to
another record (the enumerator comes back as 5) -/
def C12_E (v : Int) : RSchema :=
  { enums := [{ name := [69], pos := none, items := [{ name := [66], value := v, pos := none }] }] }
theorem C12_enumerator_beyond_i32_counterexample :
    InReflRange (C12_E 4294967301) = false ∧
    decBytes reflTy (encBytes reflTy (reflect (C12_E 4294967301))) = some (reflect (C12_E 5)) := by
  constructor <;> decide +kernel
example : InReflRange (C12_E 2147483647) = true := by decide +kernel

end Fcp
