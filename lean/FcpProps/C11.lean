import FcpModel.RenderLoad
/-!
# C11 — the parser is total: every input yields a schema or a renderable error

That no exception escapes is CPython behaviour (Lark's `VisitError`, beartype, `assert`): a
model cannot exhibit it, only predict that none should occur, and the harness checks it on
five malformed streams; in that respect the level stays "partial".  What is proved is about
the *reference* front end: it is total by construction (`Except`), and **every line it cites
for a lexical or a syntax error exists in the source** (`C11_error_lines`): the lexer's
bookkeeping (`lex_lines`) composed with a safety invariant carried through every production of
the parser (`FcpModel/SyntaxLines.lean`: an error's line is the line of a token of the input,
or the running last line, itself a token line).
-/
namespace Fcp
open Syntax Frontend

/-- every token line and every lexical error line is between 1 and the number of lines -/
theorem C11_lexer_lines_partial (src : String) :
    (∀ ts, lex src = .ok ts → ∀ t ∈ ts, 1 ≤ t.line ∧ t.line ≤ 1 + nl src.toList) ∧
    (∀ e, lex src = .error e → 1 ≤ e.line ∧ e.line ≤ 1 + nl src.toList) :=
  lex_lines src

/-- **cited lines exist**: whatever the input text, a lexical or syntax error of the reference
front end cites a line between 1 and the number of lines of that text -/
theorem C11_error_lines (src : String) (e : SynErr) (h : parseText src = .error e) :
    1 ≤ e.line ∧ e.line ≤ 1 + nl src.toList :=
  parseText_lines src e h

/-- and that is the line the error value of the loader carries, together with the file -/
theorem C11_error_value_lines (fs : FS) (fuel : Nat) (path : List String) (src : String) (e : SynErr)
    (h : parseText src = .error e) :
    loadFile fs (fuel + 1) path src = .error [⟨"syntax", e.msg, some (path.getLast?.getD ""), some e.line⟩] ∧
    1 ≤ e.line ∧ e.line ≤ 1 + nl src.toList := by
  refine ⟨by simp [loadFile, h], parseText_lines src e h⟩

/-- the reference front end is total: for every file system, root and fuel it returns a
tree or an error value (a typing fact, recorded as a theorem for the audit) -/
theorem C11_total_partial (fs : FS) (fuel : Nat) (path : List String) (src : String) :
    (∃ t, loadFile fs fuel path src = .ok t) ∨ (∃ e, loadFile fs fuel path src = .error e) := by
  cases h : loadFile fs fuel path src with
  | ok t => exact Or.inl ⟨t, rfl⟩
  | error e => exact Or.inr ⟨e, rfl⟩

/-- a syntax error of a file is reported as an error value citing that file -/
theorem C11_syntax_error_value_partial (fs : FS) (fuel : Nat) (path : List String) (src : String)
    (e : SynErr) (h : parseText src = .error e) :
    loadFile fs (fuel + 1) path src =
      .error [⟨"syntax", e.msg, some (path.getLast?.getD ""), some e.line⟩] := by
  simp [loadFile, h]

/-! ## rendering (`Logger.error`, FcpModel/Render.lean) -/

/-- **an error value can be rendered exactly when each of its citations can be resolved**: the
cited source is registered with the logger (under its full path or its base name) and the cited
line is not beyond the last line of that source -/
theorem C11_render_iff (srcs : Render.Sources) (ms : List Render.RMsg) :
    (Render.render srcs true ms).isSome ↔
      ∀ m ∈ ms, ∀ c, m.cite = some c →
        ∃ src, Render.findSource srcs c = some src ∧ c.line ≤ 1 + nl src :=
  Render.render_isSome_iff srcs true ms

/-- the line quoted under a citation is that line of the cited source -/
theorem C11_quoted_line (srcs : Render.Sources) (first : Bool) (m : Render.RMsg) (c : Render.Cite)
    (out : List Char) (hc : m.cite = some c) (h : Render.renderMsg srcs first m = some out) :
    ∃ src l, Render.findSource srcs c = some src ∧ Render.lineAt (Render.splitNl src) c.line = some l ∧
      out = Render.header first m ++ Render.citeLine c ++ ['\n'] ++ Render.logLocation l c.line :=
  Render.renderMsg_eq srcs first m c out hc h

/-- **lexical and syntax errors are renderable**: whatever the text of a file, if it does not
parse, the error value of the loader can be rendered by a logger that has the file's text
registered under its name — the composition of `C11_error_lines` with `C11_render_iff` -/
theorem C11_syntax_error_renders (fs : FS) (fuel : Nat) (path : List String) (src : String) (e : SynErr)
    (h : parseText src = .error e) (srcs : Render.Sources)
    (hreg : srcs.lookup (path.getLast?.getD "") = some src.toList) :
    ∃ errs, loadFile fs (fuel + 1) path src = .error errs ∧
      (Render.render srcs true (errs.map Render.ofEMsg)).isSome := by
  refine ⟨[⟨"syntax", e.msg, some (path.getLast?.getD ""), some e.line⟩], by simp [loadFile, h], ?_⟩
  rw [Render.render_isSome_iff]
  intro m hm c hc
  simp only [List.map_cons, List.map_nil, List.mem_singleton] at hm
  subst hm
  simp only [Render.ofEMsg, Option.some.injEq] at hc
  subst hc
  refine ⟨src.toList, by simp [Render.findSource, hreg], (parseText_lines src e h).2⟩

/-- **every citation of every error value exists**: whatever the file system and the root, each
entry of an error chain returned by the reference loader that carries a file and a line names
the root or a file of the file system, and the line is between 1 and the number of lines of that
file — for lexical, syntax *and* elaboration errors (unknown type, bad parameter, empty enum,
non-integer ids, wrong version), inside modules at any import depth, and for the `mod`
statements above them (FcpModel/RenderLoad.lean) -/
theorem C11_all_error_lines (fs : FS) (root : List String) (e : Err) (h : load fs root = .error e) :
    ∀ m ∈ e, ∀ f l, m.file = some f → m.line = some l →
      ∃ p s, fs.read p = some s ∧ p.getLast?.getD "" = f ∧ 1 ≤ l ∧ l ≤ 1 + nl s.toList := by
  unfold load at h
  cases hr : fs.read root with
  | none =>
    rw [hr] at h
    simp only [Except.error.injEq] at h
    subst h
    intro m hm f l hf _
    simp only [List.mem_singleton] at hm
    subst hm
    cases hf
  | some src =>
    rw [hr] at h
    simp only at h
    intro m hm f l hf hl
    obtain ⟨p, s, hk, hp, hb⟩ := loadFile_cites fs root src 16 root src (Or.inl ⟨rfl, rfl⟩) e h m hm f l hf hl
    rcases hk with ⟨rfl, rfl⟩ | hk
    · exact ⟨p, s, hr, hp, hb⟩
    · exact ⟨p, s, hk, hp, hb⟩

/-- **every error value of the loader can be rendered**, by a logger whose registry holds the
text of every file under its name.  Partial in one respect: the entries of the model carry base
names only, so the registry is required to be unambiguous (no two files of the tree with one
base name); the implementation also registers full paths, and namesake modules are covered by
the correspondence (C20's clusters) rather than by this theorem -/
theorem C11_load_errors_render_partial (fs : FS) (root : List String) (e : Err) (h : load fs root = .error e)
    (srcs : Render.Sources)
    (hreg : ∀ p s, fs.read p = some s → srcs.lookup (p.getLast?.getD "") = some s.toList) :
    (Render.render srcs true (e.map Render.ofEMsg)).isSome := by
  rw [Render.render_isSome_iff]
  intro rm hrm c hc
  obtain ⟨m, hm, rfl⟩ := List.mem_map.mp hrm
  unfold Render.ofEMsg at hc
  simp only at hc
  cases hf : m.file with
  | none => rw [hf] at hc; simp at hc
  | some f =>
    cases hl : m.line with
    | none => rw [hf, hl] at hc; simp at hc
    | some l =>
      rw [hf, hl] at hc
      simp only [Option.some.injEq] at hc
      subst hc
      obtain ⟨p, s, hr, hp, _, hb⟩ := C11_all_error_lines fs root e h m hm f l hf hl
      refine ⟨s.toList, ?_, hb⟩
      have := hreg p s hr
      rw [hp] at this
      simp [Render.findSource, this]

/-- non-vacuity of `C11_all_error_lines`: an elaboration error (empty enum) inside an imported
module; the chain cites line 2 of the module, then the `mod` statement on line 2 of the root -/
def nvFs : FS := [(["main.fcp"], "version: \"3\"\nmod a;\n"), (["a.fcp"], "version: \"3\"\nenum E {\n}\n")]

def nvCites (r : Except Err Tree) : List (Option String × Option Nat) :=
  match r with | .error e => e.map (fun (m : EMsg) => (m.file, m.line)) | .ok _ => []

example : nvCites (load nvFs ["main.fcp"]) =
    [(some "a.fcp", some 2), (none, none), (some "main.fcp", some 2), (none, none)] := by decide +kernel

/-- non-vacuity: a two-line source, an error citing its second line, and the rendered text -/
example : Render.render [("a.fcp", "x\ny".toList)] true [⟨"boom".toList, some ⟨"a.fcp", "a.fcp", 2⟩⟩] =
    some "  → Error: boom\n   ↳ [a.fcp:2]\n  |\n2 | y\n  | ~\n".toList := by decide +kernel

/-- ... and a citation beyond the end (or of an unregistered file) cannot be rendered: the `IndexError` / `KeyError`
of `Logger.log_node` -/
example : Render.render [("a.fcp", "x\ny".toList)] true [⟨"boom".toList, some ⟨"a.fcp", "a.fcp", 3⟩⟩] = none ∧
    Render.render [("a.fcp", "x\ny".toList)] true [⟨"boom".toList, some ⟨"b.fcp", "b.fcp", 1⟩⟩] = none := by decide +kernel

end Fcp
