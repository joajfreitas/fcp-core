import FcpModel.Codegen
import FcpModel.Glue
/-!
# C10 — code generation is gated by verification

The command `GeneratorManager.generate` as an effect on the output directory.  The model is
small; the assurance for this property rests mainly on the per-run comparison of the real
command with it.
-/
namespace Fcp
open Codegen

/-- **reject ⇒ nothing happens**: when the verdict is an error the directory is exactly
what it was and the command returns that error -/
theorem C10_reject {E : Type} (e : E) (plugin : Plugin) (fs : FS) :
    generateCmd (.error e) plugin fs = (fs, .error e) := gate_reject e plugin fs

/-- **accept ⇒ exactly the returned files**: the command succeeds, each returned path holds
exactly its returned contents, every other path is as the plug-in itself left it -/
theorem C10_accept {E : Type} (plugin : Plugin) (fs : FS) (hn : (plugin.files.map (·.1)).Nodup) :
    let r := generateCmd (E := E) (.ok ()) plugin fs
    (r.2 = .ok ()) ∧
    (∀ p c, (p, c) ∈ plugin.files → r.1.get p = some c) ∧
    (∀ q, q ∉ plugin.files.map (·.1) → r.1.get q = (fs.delete (plugin.deletes fs)).get q) :=
  gate_accept plugin fs hn

/-- a plug-in that deletes nothing leaves every unreturned path untouched -/
theorem C10_accept_untouched {E : Type} (files : List (String × String)) (fs : FS) (q : String)
    (hq : q ∉ files.map (·.1)) :
    (generateCmd (E := E) (.ok ()) { deletes := fun _ => [], files := files } fs).1.get q = fs.get q := by
  have hd : fs.delete [] = fs := List.filter_eq_self.mpr fun _ _ => rfl
  rw [generateCmd, get_writeAll_not_mem _ _ q hq, hd]

/-! ## the glue the verdict travels through (`result.py`, `maybe.py`: FcpModel/Glue.lean) -/

/-- a rejection stays a rejection, with its payload, through every `Ok`-side combinator between
the check that produced it and the generate command (`map`, `and_then`, `attempt` inside `catch`):
the gate cannot be opened on the way, whatever the payload (0, "" and None are falsy in Python) -/
theorem C10_rejection_travels (e : Glue.Payload) (ops : List Glue.Op) (h : ∀ o ∈ ops, Glue.okSide o = true) :
    Glue.run (.error e) ops = .error e :=
  Glue.run_err_absorbs e ops h

/-- and `attempt` inside `catch` hands a verdict on unchanged -/
theorem C10_catch_attempt (r : Glue.Res) : Glue.step r (.catchAttempt 0) = r := Glue.catch_attempt r

example : Glue.run (.error 0) [.map 5, .andThen 0 1, .catchAttempt 2] = .error 0 := rfl

/-! non-vacuity (`String.endsWith` does not reduce in the kernel, so the clearing rule is
given explicitly here) -/
example : (generateCmd (E := String) (.ok ()) { deletes := fun _ => ["a.h", "b.c"], files := [("a.h", "new")] }
    [("a.h", "old"), ("b.c", "x"), ("notes.txt", "n"), ("sub/x.h", "s")]).1 =
    [("a.h", "new"), ("notes.txt", "n"), ("sub/x.h", "s")] := by decide +kernel

end Fcp
