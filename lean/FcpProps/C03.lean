import FcpModel.CppCodec
import FcpModel.PyCodecRefine
import FcpModel.Rpc
/-!
# C03 — the generated C++ static codec speaks the canonical wire format

`Cpp.cppEnc` / `Cpp.cppDec` model the generated `Encode` / `Decode` members: the same
composition over the type tree as the template renders, every scalar through
`Buffer::PushWord` (bit loop over a possibly signed carrier) and `Buffer::GetWord`
(bit loop, XOR/subtract sign extension with its 64-bit exception, cast to the carrier).

"Compiles as C++17" is not a statement a model can carry: it is decided on every run by
`g++ -std=c++17` over the headers generated for each sampled schema.
-/
namespace Fcp
open Cpp

/-- **encoder**: for every type and in-range value the generated encoder produces exactly the
canonical wire bytes -/
theorem C03_encode_canonical (t : Ty) (v : Val) (h : wf t v = true) :
    pack (cppEnc t v) = encBytes t v := by
  rw [cppEnc_eq t v h]; rfl

/-- hence the same bytes as the Python codec (composition with C01's refinement) -/
theorem C03_same_as_python (S : Schema) (fuel : Nat) (name : String) (t : Ty) (v : Val)
    (hr : resolve S fuel (.struct name) = some t) (h : wf t v = true) :
    pyEncode S fuel name v = .ok (pack (cppEnc t v)) := by
  rw [cppEnc_eq t v h]; exact pyEncode_refines S fuel name t v hr h

/-- **decoder**: on every supported type the generated decoder *is* the canonical decoder
(for every bit string, not only for encodings) -/
theorem C03_decode_canonical (t : Ty) (h : Widths t = true) (bs : Bits) : cppDec t bs = dec t bs :=
  congrFun (cppDec_eq t h) bs

/-- **round trip** through the generated code, at the byte level (zero padding ignored) -/
theorem C03_roundtrip (t : Ty) (v : Val) (hw : Widths t = true) (h : wf t v = true) :
    (cppDec t (unpack (pack (cppEnc t v)))).map (·.1) = some v := by
  rw [cppDec_eq t hw, cppEnc_eq t v h]
  exact decBytes_encBytes t v h

/-- **carrier**: widths 1..64 map to a standard carrier wide enough to hold them -/
theorem C03_carrier (n : Nat) (h : n ≤ 64) :
    n ≤ carrier n ∧ (carrier n = 8 ∨ carrier n = 16 ∨ carrier n = 32 ∨ carrier n = 64) :=
  carrier_ge n h

/-- the carrier is the *smallest* standard width that fits -/
theorem C03_carrier_least (n c : Nat) (hc : c = 8 ∨ c = 16 ∨ c = 32 ∨ c = 64) (h : n ≤ c) :
    carrier n ≤ c := by
  unfold carrier; rcases hc with rfl | rfl | rfl | rfl <;> (repeat' split) <;> omega

/-- **sign extension**: an `n`-bit field read into a signed carrier yields the two's-complement
value, for every width 1..64 and every carrier that fits -/
theorem C03_sign_extension (n c r : Nat) (h1 : 1 ≤ n) (h2 : n ≤ c) (h3 : c ≤ 64) (hr : r < 2 ^ n) :
    castSigned c (getWord n true r) = ofTwos n r :=
  getWord_signext n c r h1 h2 h3 hr

/-- **enums use their minimal width**: with `b` bits, `max` fits and would not fit in `b-1` -/
theorem C03_enum_minimal (e : Enum) (b : Nat) (h : e.packedSize = some b) (hm : 2 ≤ e.maxValue) :
    (2 : Int) ^ (b - 1) ≤ e.maxValue ∧ e.maxValue < (2 : Int) ^ b :=
  enumBits_minimal e b h hm

/-! ## the rpc layer (FcpModel/Rpc.lean = `generate_rpc`) -/

/-- the wrapper structs and id enums the C++ generator derives from the services cannot change
the wire format of a user type: every type that resolves in the schema resolves to the same
closed type in the extended schema the headers are rendered from -/
theorem C03_rpc_keeps_user_types (S S' : Schema) (h : Rpc.rpc S = some S') (fuel : Nat) (t : STy) (ty : Ty)
    (hr : resolve S fuel t = some ty) : resolve S' fuel t = some ty :=
  Rpc.rpc_resolve S S' h fuel t ty hr

/-- **accepted ⇒ the rpc layer generates**: a schema that passes the general checks and the
C++ plug-in's service check (and has at least one method per service, the grammar's rule) makes
`generate_rpc` return (before the repairs `35b0f7d` it raised for ids above 255 and for payloads
that are no declared structs, although the schema was accepted) -/
theorem C03_accepted_generates (fuel : Nat) (S : Schema) (h : verifyModel .cpp fuel S = .ok ())
    (hm : ∀ sv ∈ S.services, sv.methods ≠ []) : (Rpc.rpc S).isSome :=
  Rpc.rpc_total S ((verify_iff_cpp fuel S).mp h).2.2 hm

/-- non-vacuity: one service, one struct used as input and as output, both wrappers present -/
def C03_rpcS : Schema := {
  structs := [{ name := "A", fields := [{ name := "x", id := 0, ty := .u 8 }] }],
  services := [{ name := "MotorControl", id := 1, methods := [⟨"m", 0, "A", "A"⟩] }] }
example : (verifyModel .cpp 5 C03_rpcS).toOption = some () := by decide +kernel
example : ((Rpc.rpc C03_rpcS).map fun S' => (S'.structs.map (·.name), S'.enums.map (·.name))) =
    some (["A", "AInput", "AOutput"], ["ServiceId", "MotorControlMethodId"]) := by decide +kernel

/-! non-vacuity: `struct { a: i3, b: u5, c: [i7,2]? }` with negative values -/
def C03_t : Ty := .field "a" 0 (.sint 3) (.field "b" 1 (.uint 5) (.field "c" 2 (.opt (.arr (.sint 7) 2)) .unit))
def C03_v : Val := .cons (.int (-4)) (.cons (.int 21) (.cons (.some (.cons (.int (-64)) (.cons (.int 63) .nil))) .nil))
example : wf C03_t C03_v = true ∧ Widths C03_t = true := by decide +kernel
example : pack (cppEnc C03_t C03_v) = [172, 1, 192, 31] := by decide +kernel
example : castSigned 8 (getWord 3 true 4) = -4 ∧ castSigned 64 (getWord 64 true (2^63)) = -(2^63 : Int) := by decide +kernel
example : carrier 1 = 8 ∧ carrier 9 = 16 ∧ carrier 17 = 32 ∧ carrier 33 = 64 ∧ carrier 64 = 64 := by decide +kernel

end Fcp
