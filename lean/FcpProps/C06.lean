import FcpModel.CanC
/-!
# C06 — the generated C CAN code packs and unpacks frames per the packed layout

The runtime model works on the `uint64_t` word exactly as `can_signal_parser.c` does
(mask, shift, OR; shift, mask, sign-extend).  On the advertised subset: flat layouts of at
most 64 bits, scale 1, offset 0, little-endian.
-/
namespace Fcp
open CanC

/-- **encode = layout packing**: the word the generated encode function builds by OR-ing the
masked, shifted signals is the number whose bits are the layout packing of the values -/
theorem C06_encode_is_packing (S : Schema) (fuel : Nat) (i : Impl) (ls : List Leaf) (e : Nat)
    (hg : generate S true fuel i = some (ls, e)) (he : e ≤ 64) (vs : List Int)
    (hv : vs.length = ls.length) : encodeWord ls vs = bitsNat (packLeaves ls vs) :=
  encodeWord_is_packing ls vs e (generate_tiles S true fuel i ls e hg) hv he

/-- data byte `k` of the frame is the `k`-th group of 8 bits of the layout packing; the
DLC is `⌈bits/8⌉` and the identifier the binding's id -/
theorem C06_frame (S : Schema) (fuel : Nat) (i : Impl) (ls : List Leaf) (e : Nat)
    (hg : generate S true fuel i = some (ls, e)) (he : e ≤ 64) (vs : List Int)
    (hv : vs.length = ls.length) (id : Int) :
    (encodeMsg id ls e vs).id = id ∧ (encodeMsg id ls e vs).dlc = (e + 7) / 8 ∧
    ∀ k (hk : k < 8), ((encodeMsg id ls e vs).data)[k]'(by simp [encodeMsg, wordBytes, hk]) =
      bitsNat (((packLeaves ls vs).drop (8 * k)).take 8) :=
  ⟨rfl, rfl, fun k hk => frame_byte ls vs e (generate_tiles S true fuel i ls e hg) hv he k hk⟩

/-- **decode ∘ encode = id** for every in-range message value -/
theorem C06_decode_encode (S : Schema) (fuel : Nat) (i : Impl) (ls : List Leaf) (e : Nat)
    (hg : generate S true fuel i = some (ls, e)) (he : e ≤ 64) (vs : List Int)
    (hv : vs.length = ls.length)
    (hr : ∀ k (hk : k < ls.length), leafInRange ls[k] (vs[k]'(by omega))) :
    decodeWord (encodeWord ls vs) ls = vs :=
  decode_encode ls vs e (generate_tiles S true fuel i ls e hg) hv he hr

/-! non-vacuity: `i5` at bit 3 holding its minimum, behind a `u3` -/
def C06_ls : List Leaf :=
  [{ name := "a", field := "a", ty := .u 3, start := 0, len := 3, endian := "little", opts := [], unit := none },
   { name := "b", field := "b", ty := .i 5, start := 3, len := 5, endian := "little", opts := [], unit := none }]
example : Tiles 0 C06_ls 8 := ⟨rfl, rfl, rfl⟩
example : (encodeMsg 7 C06_ls 8 [5, -16]).data = [133, 0, 0, 0, 0, 0, 0, 0] ∧
    decodeWord (encodeWord C06_ls [5, -16]) C06_ls = [5, -16] := by decide +kernel

end Fcp
