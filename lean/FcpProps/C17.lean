import FcpModel.Codegen
/-!
# C17 — generated artifacts are a deterministic function of the schema

What a theorem can carry here is small: the `{path: contents}` map of a file list does not
depend on the order in which a generator emitted the files (the C++ generator iterates a
Python `set` of protocol names, whose order depends on the hash seed).  That each generator
is a function of the schema alone — no hidden process state, no mutation of the parsed
schema, no hash-order-dependent *contents* — is CPython behaviour and is exercised by the
harness (fresh processes under several hash seeds, and a long-lived process with a history).
Label: partial.
-/
namespace Fcp
open Codegen

/-- emitting the same files in another order yields the same map -/
theorem C17_order_indep_partial (files files' : List (String × String)) (h : files.Perm files')
    (hn : (files.map (·.1)).Nodup) : toMap files = toMap files' :=
  gen_order_indep files files' h hn

/-- writing the same files in another order yields the same directory contents -/
theorem C17_write_order_partial (files files' : List (String × String)) (h : files.Perm files')
    (hn : (files.map (·.1)).Nodup) (fs : FS) (p : String) :
    (writeAll files fs).get p = (writeAll files' fs).get p := by
  have hn' : (files'.map (·.1)).Nodup := (h.map _).nodup_iff.mp hn
  by_cases hp : p ∈ files.map (·.1)
  · obtain ⟨⟨q, c⟩, hm, rfl⟩ := List.mem_map.mp hp
    rw [get_writeAll_mem files fs q c hn hm, get_writeAll_mem files' fs q c hn' (h.mem_iff.mp hm)]
  · have hp' : p ∉ files'.map (·.1) := fun h' => hp ((h.map _).mem_iff.mpr h')
    rw [get_writeAll_not_mem files fs p hp, get_writeAll_not_mem files' fs p hp']

/-- what was in the output directory before does not show in the files a generation returns:
every returned path reads back as the returned contents, whatever the directory held (the model
of the file sink overwrites; a sink that does not truncate breaks the correspondence, trials
C10-r2 and C17-r10) -/
theorem C17_disk_history_indep_partial (files : List (String × String)) (hn : (files.map (·.1)).Nodup)
    (fs fs' : FS) (p c : String) (hm : (p, c) ∈ files) :
    (writeAll files fs).get p = some c ∧ (writeAll files fs).get p = (writeAll files fs').get p := by
  rw [get_writeAll_mem files fs p c hn hm, get_writeAll_mem files fs' p c hn hm]
  exact ⟨rfl, rfl⟩

example : toMap [("fcp_can.h", "a"), ("fcp_uart.h", "b")] "fcp_uart.h" =
    toMap [("fcp_uart.h", "b"), ("fcp_can.h", "a")] "fcp_uart.h" := by decide +kernel

end Fcp
