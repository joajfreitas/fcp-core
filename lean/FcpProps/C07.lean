import FcpModel.Frontend
import FcpModel.LexPrint
import FcpModel.SyntaxFlat
/-!
# C07 — parsing is the inverse of printing

Proved at **token level for the whole grammar**: `C07_parse_print` — every printing of a
file (relation `FileToks`: every production, every choice of the optional separators — `|`
before and between parameters, the comma after a parameter argument, `as` before a binding's
name —, arbitrary line numbers, types and values nested to any depth) parses back to exactly
that file with the reference recursive-descent parser; fuel is never the reason for an error
(`ValToks.depth_le`, `TyToks.depth_le`, `Covers`: the fuels are computed from the number of remaining tokens).  Printing is a relation, so
all spellings are covered at once.  `C07_default_impl` ties the declared structs to their
default bindings; `C07_lexer_lines` (in C11) bounds the lexer's line bookkeeping.

Proved at **character level** for the reference front end as well: `C07_lex_print` — the
lexer maps every printing of a token list (relation `Render`: any run of spaces, tabs, line
feeds, `//` and `/* */` comments before each token and at the end of the text; identifiers;
numbers with sign, fraction and exponent; string literals with escapes; the thirteen symbols;
every token followed by something that cannot continue it) back to exactly that list with the
line each token starts on; `C07_text_to_file` composes the two levels: a text that prints the
tokens of a printing of `pf` parses to `pf`.

Still by correspondence only (hence the level note stays "partial"): that the real
Lark/Earley front end agrees with the reference lexer and parser; exercised on every run on
generated texts under three formatting regimes.
-/
namespace Fcp
open Syntax

/-- **`type`**: parsing inverts printing, to any nesting depth of `[T, n]`, `[T]`, `Optional[T]` -/
theorem C07_type_partial (t : PTy) (ts : List LTok) (h : TyToks t ts) (f last : Nat) (rest : List LTok)
    (hf : t.depth ≤ f) : parseType f last (ts ++ rest) = .ok (t, rest) :=
  parseType_print t ts h f last rest hf

/-- **`value`**: parsing inverts printing for numbers, strings, identifiers and arrays nested
to any depth -/
theorem C07_value_partial (v : PVal) (ts : List LTok) (h : ValToks v ts) (f last : Nat) (rest : List LTok)
    (hf : v.depth ≤ f) : parseValue f last (ts ++ rest) = .ok (v, rest) :=
  parseValue_print v ts h f last rest hf

/-- **the whole file**: parsing inverts printing for every production of the grammar -/
theorem C07_parse_print (pf : PFile) (ts : List LTok) (h : FileToks pf ts) : parseFile ts = .ok pf :=
  parseFile_print pf ts h

/-- every declaration kind parses back in front of any continuation -/
theorem C07_decl_print (d : PDecl) (ts : List LTok) (h : DeclToks d ts) (last : Nat) (rest : List LTok) :
    parseDecl last (ts ++ rest) = .ok (d, rest) :=
  parseDecl_print d ts h last rest

/-- one default binding per struct, named after it, is added where the struct is declared -/
theorem C07_default_impl (loader : List String → String → Except Frontend.Err Frontend.Tree)
    (fs : Frontend.FS) (path : List String) (s : Frontend.St) (name : String) (fields : List PField)
    (line : Nat) (fs' : List Frontend.TField)
    (h : fields.mapM (Frontend.elabField s.tree (path.getLast?.getD "") name) = .ok fs') :
    (Frontend.elabDecl loader fs path s (.struct name fields line)).tree.impls =
      s.tree.impls ++ [⟨name, "default", name, [], []⟩] ∧
    (Frontend.elabDecl loader fs path s (.struct name fields line)).tree.structs =
      s.tree.structs ++ [⟨name, fs'⟩] := by
  simp [Frontend.elabDecl, h]

/-! non-vacuity: `Optional[[[str, 4]]]` and `[1, [x, "s"]]` -/
example : TyToks (.opt (.dyn (.arr .str "4")))
    [⟨.ident "Optional", 1⟩, ⟨.sym '[', 1⟩, ⟨.sym '[', 2⟩, ⟨.sym '[', 2⟩, ⟨.ident "str", 3⟩, ⟨.sym ',', 3⟩,
     ⟨.num "4", 3⟩, ⟨.sym ']', 3⟩, ⟨.sym ']', 4⟩, ⟨.sym ']', 4⟩] :=
  .opt _ _ 1 1 4 (.dyn _ _ 2 4 (.arr _ _ "4" 2 3 3 3 (.str 3)))
example : ValToks (.arr (.cons (.num "1") (.cons (.arr (.cons (.ident "x") (.cons (.str "s") .nil))) .nil)))
    [⟨.sym '[', 1⟩, ⟨.num "1", 1⟩, ⟨.sym ',', 1⟩, ⟨.sym '[', 1⟩, ⟨.ident "x", 1⟩, ⟨.sym ',', 1⟩,
     ⟨.str "s", 1⟩, ⟨.sym ']', 1⟩, ⟨.sym ']', 1⟩] :=
  .arr _ _ 1 (.more _ _ [_] _ 1 (.num "1" 1)
    (.last _ [_, _, _, _, _] 1 (.arr _ _ 1 (.more _ _ [_] _ 1 (.ident "x" 1) (.last _ [_] 1 (.str "s" 1))))))

/-! non-vacuity for the whole file: a module import, a struct whose field has a unit parameter
written with the optional bar, a binding renamed without `as` — the relation is inhabited and
the reference parser returns the file on that very token list -/
def C07_file : PFile := ⟨"3", 1, [.mod ["a", "b"] 2,
  .struct "S" [⟨"x", "0", .f32, [⟨"unit", [.str "V"]⟩], 3⟩] 3,
  .impl "can" "S" (some "T") [.field "id" (.num "10")] 4]⟩

theorem C07_file_printing : ∃ ts, FileToks C07_file ts ∧ ts.length = 34 :=
  ⟨_, .mk "3" 1 1 1 _ _
    (.cons _ _ _ _ (.mod _ 2 2 _ (.more "a" 2 2 _ _ (.one "b" 2)))
    (.cons _ _ _ _ (.struct "S" _ 3 3 3 3 _ (.cons _ _ _ _
        (.bar "x" "0" .f32 _ _ _ 3 3 3 3 3 3 (.f32 3)
          (.bare "unit" [.str "V"] [] _ [] 3 3 (.bare _ _ _ _ (.str "V" 3) (.nil 3)) .nil)) .nil) (by simp))
    (.cons _ _ _ _ (.impl "can" "S" (some "T") [.field "id" (.num "10")] 4 4 4 4 4 4 _ _
        (.bare "T" 4 (by decide)) (.field "id" (.num "10") 4 4 4 _ [] [] (.num "10" 4) .nil) (by simp))
      .nil))), by simp⟩

/-- **character level, lexer**: every printing of a token list — any run of spaces, tabs, line
feeds, `//` and `/* */` comments before each token and at the end, identifiers, numbers with
sign / fraction / exponent, string literals with escapes, the thirteen symbols, each token
followed by something that cannot continue it — lexes back to exactly that token list, with
the line every token starts on -/
theorem C07_lex_print (ts : List LTok) (cs : List Char) (h : Render ts 1 cs) :
    Syntax.lex (String.ofList cs) = .ok ts :=
  lex_render ts cs h

/-- **from characters to the tree**: a text that prints the tokens of a printing of the file
`pf` is parsed to `pf` by the reference front end (lexer, then recursive descent) -/
theorem C07_text_to_file (pf : PFile) (ts : List LTok) (cs : List Char) (hr : Render ts 1 cs)
    (hf : FileToks pf ts) : parseText (String.ofList cs) = .ok pf := by
  rw [parseText, lex_render ts cs hr]
  exact parseFile_print pf ts hf

/-! non-vacuity: the text `x1 /* c */// k⏎-2.5e+3,"q\"" ` prints four tokens on two lines -/
example : Render [⟨.ident "x1", 1⟩, ⟨.num "-2.5e+3", 2⟩, ⟨.sym ',', 2⟩, ⟨.str "q\\\"", 2⟩] 1
    (['x', '1'] ++ ([' ', '/', '*', ' ', 'c', ' ', '*', '/', '/', '/', ' ', 'k', '\n'] ++
      (['-', '2', '.', '5', 'e', '+', '3'] ++ ([','] ++ (['"', 'q', '\\', '"', '"'] ++ [' ']))))) :=
  .cons [] 0 _ ['x', '1'] _ _ 1 .nil (.ident 'x' ['1'] (by decide) (by decide)) (by unfold TokSep; decide)
    (.cons [' ', '/', '*', ' ', 'c', ' ', '*', '/', '/', '/', ' ', 'k', '\n'] 1 _
      ['-', '2', '.', '5', 'e', '+', '3'] _ _ 1
      (.space _ _ (.block [' ', 'c', ' '] _ 1 (by decide) (.line [' ', 'k'] [] 0 (by decide) .nil)))
      (.snum '-' ['2'] ['.', '5'] ['e', '+', '3'] (.inr rfl) (by decide) (by decide) (.some ['5'] (by decide))
        (.mk 'e' ['+'] ['3'] (.inl rfl) (.inr (.inl rfl)) (by decide) (by decide)))
      (by unfold TokSep; decide)
      (.cons [] 0 _ [','] _ _ 2 .nil (.sym ',' (by decide)) (by intro h; cases h)
        (.cons [] 0 _ ['"', 'q', '\\', '"', '"'] _ _ 2 .nil (.str ['q', '\\', '"'] (by decide)) trivial
          (.nil [' '] 0 2 (.space _ _ .nil)))))

end Fcp
