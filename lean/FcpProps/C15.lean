import FcpModel.CanC
import FcpModel.CppCodec
import FcpModel.FieldOrder
import FcpModel.PyCodecRefine
/-!
# C15 — field ids, not declaration order, fix the wire order in every back end

`Twin S S'`: the two schemas give every struct name the same fields up to declaration order
(same ids).  The canonical resolver, the Python codec model, the packed layout and the DBC
description are all functions of the *sorted* field list, hence equal for twins.
-/
namespace Fcp

/-- with distinct ids the sorted field list does not depend on the order of declaration -/
theorem C15_sort (fs fs' : List Field) (p : fs.Perm fs') (hn : (fs.map (·.id)).Nodup) :
    sortFields fs = sortFields fs' := sortFields_eq_of_perm fs fs' p hn

/-- the closed type tree (hence the canonical encoding of every value) is the same -/
theorem C15_resolve (S S' : Schema) (h : Twin S S') (f : Nat) (t : STy) :
    resolve S f t = resolve S' f t := congrFun (resolve_twin S S' h f) t

/-- the Python codec produces the same bytes for both declarations -/
theorem C15_python (S S' : Schema) (h : Twin S S') (f : Nat) (name : String) (ty : Ty) (v : Val)
    (hr : resolve S f (.struct name) = some ty) (hv : wf ty v = true) :
    pyEncode S f name v = pyEncode S' f name v := by
  rw [pyEncode_refines S f name ty v hr hv,
    pyEncode_refines S' f name ty v (by rw [← resolve_twin S S' h]; exact hr) hv]

/-- the packed CAN layout is the same -/
theorem C15_layout (S S' : Schema) (h : Twin S S') (unroll : Bool) (fuel : Nat) (i : Impl) :
    generate S unroll fuel i = generate S' unroll fuel i := generate_twin S S' unroll fuel i h

/-- the DBC description of a binding is the same -/
theorem C15_dbc (S S' : Schema) (h : Twin S S') (fuel : Nat) (i : Impl) :
    dbcMessage S fuel i = dbcMessage S' fuel i := by
  unfold dbcMessage
  rw [generate_twin S S' true fuel i h]


/-- the generated C++ codecs (static and reflection-loaded, encoders and decoders) are functions
of the closed type tree, which twins share: same bytes, same decoded values -/
theorem C15_cpp (S S' : Schema) (h : Twin S S') (f : Nat) (name : String) (ty ty' : Ty)
    (hr : resolve S f (.struct name) = some ty) (hr' : resolve S' f (.struct name) = some ty') :
    ty = ty' ∧
    (∀ v, Cpp.cppEnc ty v = Cpp.cppEnc ty' v ∧ Cpp.dynEnc ty v = Cpp.dynEnc ty' v) ∧
    (∀ bs, Cpp.cppDec ty bs = Cpp.cppDec ty' bs ∧ Cpp.dynDec ty bs = Cpp.dynDec ty' bs) := by
  have e : ty = ty' := by
    rw [resolve_twin S S' h] at hr
    rw [hr] at hr'
    exact Option.some.inj hr'
  subst e
  exact ⟨rfl, fun _ => ⟨rfl, rfl⟩, fun _ => ⟨rfl, rfl⟩⟩

/-- ... and every one of them writes the canonical bytes of the id-sorted struct, whichever way
the fields were declared (the refinement theorems of C03 / C13 at the twin) -/
theorem C15_cpp_canonical (S S' : Schema) (h : Twin S S') (f : Nat) (name : String) (ty : Ty) (v : Val)
    (hr : resolve S f (.struct name) = some ty) (hv : wf ty v = true) :
    ∃ ty', resolve S' f (.struct name) = some ty' ∧
      Cpp.cppEnc ty' v = enc ty v ∧ Cpp.dynEnc ty' v = enc ty v := by
  refine ⟨ty, by rw [← resolve_twin S S' h]; exact hr, Cpp.cppEnc_eq ty v hv, ?_⟩
  rw [Cpp.dynEnc_eq_cppEnc ty, Cpp.cppEnc_eq ty v hv]

/-- the generated C packs a frame from the layout leaves, which twins share: whatever layout the
twin yields, it is the same one, hence the same frame for every list of values -/
theorem C15_c (S S' : Schema) (h : Twin S S') (fuel : Nat) (i : Impl) (ls ls' : List Leaf) (e e' : Nat)
    (hg : generate S true fuel i = some (ls, e)) (hg' : generate S' true fuel i = some (ls', e'))
    (id : Int) (vs : List Int) :
    CanC.encodeMsg id ls' e' vs = CanC.encodeMsg id ls e vs ∧
    CanC.decodeWord (CanC.encodeWord ls' vs) ls' = CanC.decodeWord (CanC.encodeWord ls vs) ls := by
  rw [generate_twin S S' true fuel i h, hg'] at hg
  obtain ⟨rfl, rfl⟩ := Prod.mk.inj (Option.some.inj hg)
  exact ⟨rfl, rfl⟩

/-- structs pairwise equal up to the order of their fields -/
def StructsTwin : List Struct → List Struct → Prop
  | [], [] => True
  | a :: l1, b :: l2 => (a.name = b.name ∧ a.fields.Perm b.fields ∧ (a.fields.map (·.id)).Nodup) ∧
      StructsTwin l1 l2
  | _, _ => False

/-- building a twin: permuting the fields of each struct (distinct ids) gives a `Twin` -/
theorem C15_twin_of_perm (S S' : Schema) (he : S.enums = S'.enums)
    (hs : StructsTwin S.structs S'.structs) : Twin S S' := by
  constructor
  · intro n
    unfold Schema.sortedFields Schema.getStruct
    generalize S.structs = l1 at hs
    generalize S'.structs = l2 at hs
    induction l1 generalizing l2 with
    | nil => cases l2 with
      | nil => rfl
      | cons b l2 => exact False.elim hs
    | cons a l1 ih =>
      cases l2 with
      | nil => exact False.elim hs
      | cons b l2 =>
        obtain ⟨hab, hrest⟩ := hs
        simp only [List.find?_cons, ← hab.1]
        cases a.name == n with
        | false => exact ih l2 hrest
        | true => exact congrArg some (sortFields_eq_of_perm a.fields b.fields hab.2.1 hab.2.2)
  · intro n; unfold Schema.getEnum; rw [he]

/-! non-vacuity: a struct and its twin -/
def C15_A : Schema := { structs := [{ name := "A", fields := [
  { name := "b", id := 2, ty := .u 16 }, { name := "a", id := 1, ty := .i 3 }] }] }
def C15_B : Schema := { structs := [{ name := "A", fields := [
  { name := "a", id := 1, ty := .i 3 }, { name := "b", id := 2, ty := .u 16 }] }] }
example : resolve C15_A 3 (.struct "A") = resolve C15_B 3 (.struct "A") := by decide +kernel

end Fcp
