import FcpModel.PyCodecRefine
import FcpModel.WireTrunc
import FcpModel.WorkBound
/-!
# C16 — the Python decoder detects truncated input
-/
namespace Fcp

/-- **C16, truncation**: decoding any strict byte prefix of a valid encoding is an error;
no value is returned -/
theorem C16_truncation (S : Schema) (fuel : Nat) (name : String) (ty : Ty) (v : Val)
    (hr : resolve S fuel (.struct name) = some ty) (hv : wf ty v = true)
    (k : Nat) (hk : k < (encBytes ty v).length) :
    ∃ e, pyDecode S fuel name ((encBytes ty v).take k) = .error e := by
  have h := pyDecode_refines S fuel name ty ((encBytes ty v).take k) hr
  rw [decBytes_prefix_none ty v hv k hk] at h
  exact h

/-- **C16, accounting**: whenever the decoder returns a value, the input really contained
all the bits of that value's canonical encoding — nothing is built from absent bytes -/
theorem C16_no_fabrication (S : Schema) (fuel : Nat) (name : String) (ty : Ty) (bytes : List Nat)
    (v : Val) (hr : resolve S fuel (.struct name) = some ty)
    (h : pyDecode S fuel name bytes = .ok v) :
    (enc ty v).length ≤ 8 * bytes.length := by
  have h0 := pyDecode_refines S fuel name ty bytes hr
  cases hd : dec ty (unpack bytes) with
  | none =>
    simp only [decBytes, hd, Option.map_none] at h0
    obtain ⟨e, he⟩ := h0
    rw [he] at h; cases h
  | some vr =>
    obtain ⟨v', r⟩ := vr
    simp only [decBytes, hd, Option.map_some] at h0
    rw [h0] at h
    cases h
    have := (dec_consumes ty _ _ _ hd).1
    simp only [unpack_length] at this
    omega

/-- **C16, short payload**: a byte string shorter than the encoding its own length prefixes
announce is an error — whatever the prefixes say, a value is returned only if the bits are there.
Stated contrapositively on the canonical decoder (any value it returns re-encodes to at most
the available bits); with `C02_decode_agrees` the Python decoder errs on every other input. -/
theorem C16_short_payload (ty : Ty) (bytes : List Nat) (h : decBytes ty bytes = none) (S : Schema)
    (fuel : Nat) (name : String) (hr : resolve S fuel (.struct name) = some ty) :
    ∃ e, pyDecode S fuel name bytes = .error e := by
  have h0 := pyDecode_refines S fuel name ty bytes hr
  rw [h] at h0
  exact h0

/-- **C16, work**: the number of `read_word` calls the decoder makes (`reads`, the same
recursion as the decoder, a failing read included) is at most `weight ty * (1 + 8 * #bytes)`
where `weight` depends on the schema only — for every type in which no dynamic array has a
zero-width element type.  A length prefix of 2^32−1 with nothing behind it costs one failing
read. -/
theorem C16_work_bounded (ty : Ty) (hp : PosWidth ty = true) (bytes : List Nat) :
    reads ty (unpack bytes) ≤ weight ty * (1 + 8 * bytes.length) := by
  have := reads_le ty hp (unpack bytes)
  rwa [unpack_length] at this

/-- the guard is necessary: `[[u8,0]]` announcing `n` elements costs `n` steps on 4 bytes
(the recorded finding `zero-width-elements`) -/
theorem C16_zero_width_counterexample :
    PosWidth (.dyn (.arr (.uint 8) 0)) = false ∧
    (decBytes (.dyn (.arr (.uint 8) 0)) [200, 0, 0, 0]).map vlen = some 200 := by decide +kernel

example : PosWidth (.field "a" 0 (.dyn (.opt (.sint 3))) (.field "s" 1 .str .unit)) = true := by decide +kernel
example : reads (.field "a" 0 (.dyn (.uint 8)) .unit) (unpack [255, 255, 255, 255, 7]) = 3 := by decide +kernel

/-! non-vacuity: `[u8]` announcing 2^32-1 elements with one byte of payload is rejected -/
example : decBytes (.field "a" 0 (.dyn (.uint 8)) .unit) [255, 255, 255, 255, 7] = none := by
  decide +kernel

end Fcp
