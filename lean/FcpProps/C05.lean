import FcpModel.DbcBuses
import FcpModel.DbcMotorola
/-!
# C05 — the generated DBC describes exactly the packed layout

`expectedDbc` is what `fcp_dbc` hands to cantools (one message per CAN binding, one signal
per layout leaf).  The theorems are about that description; the text cantools prints is read
back by the harness' own reader on every run.
-/
namespace Fcp

/-- a message is emitted only if the layout exists and fits; its length is `⌈bits/8⌉` and at
most 8 bytes -/
theorem C05_message_length (S : Schema) (fuel : Nat) (i : Impl) (m : DbcMessage) (ls : List Leaf)
    (e : Nat) (hg : generate S true fuel i = some (ls, e)) (h : dbcMessage S fuel i = .ok m) :
    e ≤ 64 ∧ m.dlc = (e + 7) / 8 ∧ m.dlc ≤ 8 ∧ m.name = i.name := by
  obtain ⟨h1, h2, h3⟩ := dbcMessage_ok_fits hg h
  exact ⟨h1, h2, (dlc_fits ⟨h1, h2⟩).2, h3⟩

/-- one signal per layout leaf, in the same order, with the leaf's bit length, and the
leaf's bit position (shifted by 7 to the MSB for non-little-endian signals) -/
theorem C05_signals (ls : List Leaf) (sigs : List DbcSignal) (dlc : Nat)
    (h : makeSignals ls = .ok (sigs, dlc)) :
    sigs.length = ls.length ∧
    ∀ k (hk : k < ls.length) (hk' : k < sigs.length),
      sigs[k].length = ls[k].len ∧
      sigs[k].start = (if ls[k].endian != "little" then ls[k].start + 7 else ls[k].start) ∧
      sigs[k].signed = ls[k].ty.isSigned ∧ sigs[k].isFloat = ls[k].ty.isFloat ∧
      sigs[k].unit = ls[k].unit ∧ sigs[k].bigEndian = (ls[k].endian == "big") := by
  unfold makeSignals at h
  split at h
  · cases h
  · split at h
    · cases h
    · cases h
      refine ⟨List.length_map _, fun k hk hk' => ?_⟩
      simp only [List.getElem_map, and_self]

/-- **decode ∘ pack = id**: in a frame packed according to a layout, reading the Intel bit
range of any leaf returns that leaf's value (as its two's-complement word) -/
theorem C05_decode_pack (S : Schema) (fuel : Nat) (i : Impl) (ls : List Leaf) (e : Nat)
    (hg : generate S true fuel i = some (ls, e)) (vs : List Int) (hv : vs.length = ls.length)
    (k : Nat) (hk : k < ls.length) :
    extractIntel (packLeaves ls vs) ls[k].start ls[k].len = toTwos ls[k].len (vs[k]'(by omega)) :=
  extract_pack ls vs e (generate_tiles S true fuel i ls e hg) hv k hk

/-- **decode ∘ pack = id for both byte orders**: with big-endian leaves placed most significant
byte first (`packLeavesE`), reading every signal as the generated DBC describes it — Intel at
`start`, Motorola at `start + 7` (`C05_signals`) — returns the value.  Big-endian leaves are
byte-aligned whole bytes (the only Motorola signals the generator supports).  This is the DBC's
reading when `endianess` is "little" or "big"; for any other string `C05_signals` puts an Intel
signal at `start + 7`, which is not what is read here -/
theorem C05_decode_pack_both (S : Schema) (fuel : Nat) (i : Impl) (ls : List Leaf) (e : Nat)
    (hg : generate S true fuel i = some (ls, e)) (vs : List Int) (hv : vs.length = ls.length)
    (hbig : ∀ l ∈ ls, l.endian = "big" → l.len % 8 = 0 ∧ l.start % 8 = 0)
    (k : Nat) (hk : k < ls.length) :
    (if ls[k].endian == "big" then extractMotorola (packLeavesE ls vs) (ls[k].start + 7) ls[k].len
     else extractIntel (packLeavesE ls vs) ls[k].start ls[k].len) = toTwos ls[k].len (vs[k]'(by omega)) :=
  extract_packE ls vs e (generate_tiles S true fuel i ls e hg) hv hbig k hk

/-- the packed frame has exactly as many bits as the layout -/
theorem C05_frame_bits (S : Schema) (fuel : Nat) (i : Impl) (ls : List Leaf) (e : Nat)
    (hg : generate S true fuel i = some (ls, e)) (vs : List Int) (hv : vs.length = ls.length) :
    (packLeaves ls vs).length = e :=
  packLeaves_length e ls vs (generate_tiles S true fuel i ls e hg) hv

/-- **multiplexing**: signal `k` is a multiplexer switch exactly when some leaf of the message
names it in its `mux_signal` option; its multiplexer ids are `0 .. mux_count-1` of its own
`mux_count` option and its switch is its own `mux_signal` option -/
theorem C05_multiplexing (ls : List Leaf) (sigs : List DbcSignal) (dlc : Nat)
    (h : makeSignals ls = .ok (sigs, dlc)) (k : Nat) (hk : k < ls.length) (hk' : k < sigs.length) :
    (sigs[k].isMux = true ↔ ∃ l ∈ ls, (l.opts.lookup "mux_signal").bind xvalStr? = some ls[k].name) ∧
    sigs[k].muxSignal = (ls[k].opts.lookup "mux_signal").bind xvalStr? ∧
    sigs[k].muxIds = (match ls[k].opts.lookup "mux_count" with
                      | some (.int n) => some (List.range n.toNat)
                      | _ => none) ∧
    sigs[k].name = replaceColons ls[k].name := by
  unfold makeSignals at h
  split at h
  · cases h
  · split at h
    · cases h
    · cases h
      simp only [List.getElem_map, List.contains_iff_mem, List.mem_filterMap, true_and, and_true]
      -- whatever the `mux_count` option holds, both sides compute
      rcases List.lookup "mux_count" ls[k].opts with _ | (_ | _ | _ | _) <;> rfl

/-- **each bus file contains exactly the messages bound to that bus**: the generated description
has one entry per distinct bus; the entry of bus `b` consists of the messages of exactly the CAN
bindings that name `b`, in binding order (and is not empty); every CAN binding's bus has an entry -/
theorem C05_bus_partition (S : Schema) (fuel : Nat) (out : List (String × List DbcMessage))
    (h : expectedDbc S fuel = .ok out) :
    (out.map (·.1)).Nodup ∧
    (∀ b ms, (b, ms) ∈ out →
      Pointwise (fun i m => dbcMessage S fuel i = .ok m)
        ((S.impls.filter (·.protocol == "can")).filter (·.busName == b)) ms ∧ ms ≠ []) ∧
    (∀ i ∈ S.impls, i.protocol = "can" → ∃ ms, (i.busName, ms) ∈ out) := by
  unfold expectedDbc at h
  cases hp : (S.impls.filter (·.protocol == "can")).mapM
      (fun i => (dbcMessage S fuel i).map fun m => (i.busName, m)) with
  | error e => simp only [hp] at h; cases h
  | ok pairs =>
    simp only [hp, bind, Except.bind, pure, Except.pure, Except.ok.injEq] at h
    subst h
    -- along the `mapM`: the pair's bus is the binding's bus, its message the binding's message
    have hpw : Pointwise (fun (i : Impl) (p : String × DbcMessage) =>
        dbcMessage S fuel i = .ok p.2 ∧ p.1 = i.busName) _ pairs :=
      (mapM_ok_forall₂ _ _ _ hp).imp fun i p hxy => by
        cases hd : dbcMessage S fuel i with
        | error e => rw [hd] at hxy; cases hxy
        | ok m => rw [hd] at hxy; cases hxy; exact ⟨rfl, rfl⟩
    obtain ⟨hnd, hms, hall⟩ := groupByBus_partition pairs
    refine ⟨hnd, fun b ms hb => ?_, fun i hi hcan => ?_⟩
    · obtain ⟨rfl, h2⟩ := hms b ms hb
      refine ⟨Pointwise.map_right _ ?_, h2⟩
      exact ((hpw.filter (q := (·.1 == b)) fun i p h => by rw [h.2]).imp fun _ _ h => h.1)
    · obtain ⟨p, hp1, hxy⟩ := hpw.exists_of_mem_left
        (List.mem_filter.mpr ⟨hi, beq_iff_eq.mpr hcan⟩)
      obtain ⟨ms, hin⟩ := hall p hp1
      exact ⟨ms, hxy.2 ▸ hin⟩

/-! non-vacuity: two buses, bindings interleaved -/
def C05_S2 : Schema := {
  structs := [{ name := "A", fields := [{ name := "a", id := 0, ty := .u 8 }] }],
  impls := [{ name := "A", protocol := "can", type := "A", fields := [("id", .int 10), ("bus", .str "x")], signals := [] },
            { name := "B", protocol := "can", type := "A", fields := [("id", .int 11), ("bus", .str "y")], signals := [] },
            { name := "C", protocol := "can", type := "A", fields := [("id", .int 12), ("bus", .str "x")], signals := [] }] }
example : ((expectedDbc C05_S2 5).toOption.map fun out => out.map fun (b, ms) => (b, ms.map (·.name))) =
    some [("x", ["A", "C"]), ("y", ["B"])] := by decide +kernel

/-! non-vacuity: a `u8` and an `i16` made big-endian by its signal block, as a DBC message -/
def C05_S : Schema := {
  structs := [{ name := "A", fields := [{ name := "b", id := 2, ty := .i 16 },
                                        { name := "a", id := 1, ty := .u 8, unit := some "V" }] }],
  impls := [{ name := "A", protocol := "can", type := "A", fields := [("id", .int 10)],
              signals := [{ name := "b", fields := [("endianess", .str "big")] }] }] }
example : ((dbcMessage C05_S 5 C05_S.impls.head!).toOption.map fun m => (m.frameId, m.dlc)) =
    some ((10 : Int), 3) := by decide +kernel
example : ((dbcMessage C05_S 5 C05_S.impls.head!).toOption.map fun m =>
    m.signals.map fun s => (s.start, s.length, s.bigEndian, s.signed)) =
    some [(0, 8, false, false), (15, 16, true, true)] := by decide +kernel

/-- Motorola non-vacuity: `u8` then big-endian `i16` holding -2: bytes `07 ff fe`, read back -/
example : let ls := ((generate C05_S true 5 C05_S.impls.head!).map (·.1)).getD []
    pack (packLeavesE ls [7, -2]) = [7, 255, 254] ∧
    extractMotorola (packLeavesE ls [7, -2]) 15 16 = toTwos 16 (-2) := by decide +kernel

end Fcp
