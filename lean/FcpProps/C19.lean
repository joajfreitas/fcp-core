import FcpModel.Sched
/-!
# C19 — the generated C scheduler honours periods over every call history
-/
namespace Fcp
open Sched

/-- **C19, refinement**: for every device (list of periods) and every call history, the
scheduler's behaviour for message `i` is exactly the reference automaton of the statement:
sent on a call iff the timestamp differs from the previous call's and at least `P_i`
(unsigned, mod 2^32) has elapsed since that message's previous transmission (since 0 for
the first) -/
theorem C19_refines (periods : List Int) (i : Nat) (hi : i < periods.length) (ts : List Nat) :
    (run periods (init periods) ts).map (fun row => row.getD i false) =
      spec (periods.getD i 0) 0 0 ts := by
  have h := run_refines_spec periods i hi ts (init periods) (by simp [init])
  simpa [init, List.getD_eq_getElem?_getD, hi] using h

/-- never sent twice within less than `P`: consecutive transmissions (and the first one,
counted from time 0) are at least `P` apart -/
theorem C19_spacing (p : Int) (ts : List Nat) :
    Chain (fun a b => periodU p ≤ (b + W - a) % W) 0 (txTimes ts (spec p 0 0 ts)) :=
  spec_spacing p 0 0 ts

/-- with true, non-wrapped clock values less than 2^32 apart, the wrapped difference is the
real elapsed time, so the spacing is a spacing in real time -/
theorem C19_real_time (T1 T2 : Nat) (h : T1 ≤ T2) (hlt : T2 - T1 < W) :
    ((T2 % W) + W - (T1 % W)) % W = T2 - T1 := wrapped_diff W T1 T2 h hlt

/-- messages without a period are never sent -/
theorem C19_no_period (ts : List Nat) : ∀ b ∈ spec (-1) 0 0 ts, b = false :=
  spec_no_period 0 0 ts

/-- a due message is sent -/
theorem C19_due_sent (p : Int) (prevT lastTx t : Nat) (ts : List Nat) (hp : p ≠ -1)
    (ht : t ≠ prevT) (hd : periodU p ≤ (t + W - lastTx) % W) :
    (spec p prevT lastTx (t :: ts)).head? = some true := by
  simp only [spec, List.head?_cons, Option.some.injEq, Bool.and_eq_true, bne_iff_ne, ne_eq, due,
    decide_eq_true_eq]
  exact ⟨ht, by simpa using hp, hd⟩

/-! non-vacuity: periods 15, 20, -1 over the history of the repository's own test -/
example : run [15, 20, -1] (init [15, 20, -1]) [0, 15, 15, 20, 25, 30] =
    [[false, false, false], [true, false, false], [false, false, false], [false, true, false],
     [false, false, false], [true, false, false]] := by decide +kernel

end Fcp
