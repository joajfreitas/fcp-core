import FcpModel.Verifier
/-!
# C09 — verifier verdict = well-formedness specification (both ways)
-/
namespace Fcp

/-- **C09**: the general verifier accepts exactly the well-formed schemas -/
theorem C09_general (fuel : Nat) (S : Schema) :
    verifyModel .general fuel S = .ok () ↔ WellFormed S := verify_iff_general fuel S

/-- with the DBC checks it additionally requires every binding's struct to exist and the
frame ids of CAN bindings to be distinct -/
theorem C09_dbc (fuel : Nat) (S : Schema) :
    verifyModel .dbc fuel S = .ok () ↔ WellFormed S ∧ DbcOk S := verify_iff_dbc fuel S

/-- with the C checks it additionally requires every binding's struct to exist and every
CAN message to have a static size of at most 64 bits -/
theorem C09_c (fuel : Nat) (S : Schema) :
    verifyModel .canC fuel S = .ok () ↔ WellFormed S ∧ COk S fuel := verify_iff_c fuel S

/-- the code's `count(x) > 1` idiom is exactly "no duplicates" -/
theorem C09_count_idiom {α : Type} [BEq α] [LawfulBEq α] (l : List α) :
    (∀ x ∈ l, l.count x ≤ 1) ↔ l.Nodup := all_count_le_one_iff_nodup l

/-- the verdict does not depend on declaration order, for every check set -/
theorem C09_order_general (fuel : Nat) (S S' : Schema) (p : SchemaPerm S S') :
    (verifyModel .general fuel S = .ok ()) ↔ (verifyModel .general fuel S' = .ok ()) :=
  verify_perm .general fuel p

theorem C09_order_dbc (fuel : Nat) (S S' : Schema) (p : SchemaPerm S S') :
    (verifyModel .dbc fuel S = .ok ()) ↔ (verifyModel .dbc fuel S' = .ok ()) :=
  verify_perm .dbc fuel p

theorem C09_order_c (fuel : Nat) (S S' : Schema) (p : SchemaPerm S S') :
    (verifyModel .canC fuel S = .ok ()) ↔ (verifyModel .canC fuel S' = .ok ()) :=
  verify_perm .canC fuel p

/-- beyond the property's list: the C++ plug-in's check set (a `service` check added to the
plug-in with fix 35b0f7d, so that "accepted" means the rpc layer can be generated: service and
method ids in 0..255, unique ids and names, payloads that are declared structs; and a `field`
check added with fix 6f85ba7: integer fields of 1 to 64 bits), as an iff and
invariant under declaration order like the other sets -/
theorem C09_cpp (fuel : Nat) (S : Schema) :
    verifyModel .cpp fuel S = .ok () ↔ WellFormed S ∧ WidthsOk S ∧ CppOk S := verify_iff_cpp fuel S

theorem C09_order_cpp (fuel : Nat) (S S' : Schema) (p : SchemaPerm S S') :
    (verifyModel .cpp fuel S = .ok ()) ↔ (verifyModel .cpp fuel S' = .ok ()) :=
  verify_perm .cpp fuel p

/-! non-vacuity: an accepted and a rejected schema -/
def C09_good : Schema := {
  structs := [{ name := "A", fields := [{ name := "x", id := 0, ty := .u 8 }] }],
  enums := [{ name := "E", enumeration := [⟨"P", 0⟩, ⟨"Q", 1⟩] }],
  impls := [{ name := "A", protocol := "can", type := "A", fields := [("id", .int 1)], signals := [] }] }
def C09_bad : Schema := { C09_good with
  enums := [{ name := "A", enumeration := [⟨"P", 0⟩] }] }
example : (verifyModel .canC 5 C09_good).toOption = some () := by decide +kernel
example : (verifyModel .general 5 C09_bad).toOption = none := by decide +kernel
def C09_svc (id : Int) : Schema := { C09_good with
  services := [{ name := "S", id := id, methods := [⟨"m", 0, "A", "A"⟩] }] }
example : (verifyModel .cpp 5 (C09_svc 255)).toOption = some () ∧ (verifyModel .cpp 5 (C09_svc 256)).toOption = none ∧
    (verifyModel .general 5 (C09_svc 256)).toOption = some () := by decide +kernel

end Fcp
