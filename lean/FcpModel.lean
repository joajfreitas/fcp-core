import FcpModel.Bits
import FcpModel.SchemaLemmas
import FcpModel.Lists
import FcpModel.ExceptLemmas
import FcpModel.Utf8
import FcpModel.Schema
import FcpModel.Wire
import FcpModel.WireTrunc
import FcpModel.PyCodec
import FcpModel.PyBufLemmas
import FcpModel.PyCodecRefine
import FcpModel.Layout
import FcpModel.Verifier
import FcpModel.Sched
import FcpModel.FieldOrder
import FcpModel.Dbc
import FcpModel.Codegen
import FcpModel.CanC
import FcpModel.Syntax
import FcpModel.LexStep
import FcpModel.SyntaxLemmas
import FcpModel.Frontend
import FcpModel.FrontendLemmas
import FcpModel.SplitLemmas
import FcpModel.Reflection
import FcpModel.ReflRange
import FcpModel.Json
import FcpModel.CppCodec
import FcpModel.WorkBound
import FcpModel.DbcMotorola
import FcpModel.DbcBuses
import FcpModel.SyntaxFlat
import FcpModel.SplitGeneral
import FcpModel.SyntaxLines
import FcpModel.LexPrint
import FcpModel.Render
import FcpModel.RenderLoad
import FcpModel.Rpc
import FcpModel.Glue
